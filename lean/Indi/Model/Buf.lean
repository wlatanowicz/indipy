/-
  L2a `Buf` — model of indi/transport/buffer.py (`Buffer.append/process`).

  Parametrised by the list of known tags, the junk-recovery threshold
  (`none` = disabled, the client's BLOB connection) and the parser
  `parse : Str → ParseRes M`: `notXml` (`ET.fromstring` raises `ParseError`),
  `invalid` (well-formed XML, but `IndiMessage.from_string` raises) or
  `msg m`.  For running, `parse` is a table of what the real parser answers;
  for the C11/C02 theorems it is arbitrary.
-/
import Indi.Model.Basic

namespace Indi.Buf

inductive ParseRes (M : Type) where
  | notXml
  | invalid
  | msg (m : M)

/-- what one scan of the buffer finds -/
inductive FindRes (M : Type) where
  | found (m : M) (rest : Str)     -- a message and the data after it
  | skip (rest : Str)              -- a complete element that is not a valid message: dropped
  | nothing

variable {M : Type}

/-- does `d` start with `'<' ++ tag` for a known tag? -/
def startsKnown (tags : List Str) (d : Str) : Bool :=
  tags.any fun t => ('<' :: t).isPrefixOf d

/-- suffix of `d` beginning at the first position where a known opener starts
(`min` over the tags of `data.find("<" + tag)`) -/
def dropToKnown (tags : List Str) : Str → Option Str
  | [] => none
  | c :: cs => if startsKnown tags (c :: cs) then some (c :: cs) else dropToKnown tags cs

/-- suffix of `d` beginning at the last `'<'` (`data.rfind("<")`) -/
def dropToLastLt : Str → Option Str
  | [] => none
  | c :: cs =>
    match dropToLastLt cs with
    | some r => some r
    | none => if c = '<' then some (c :: cs) else none

/-- `_cleanup_buffer` -/
def cleanup (tags : List Str) (d : Str) : Str :=
  match dropToKnown tags d with
  | some r => r
  | none =>
    match dropToLastLt d with
    | some r => r
    | none => []

/-- the `while` loop of `_find_message_in_buffer`, after its guard has been
passed: `preRev` is the already scanned part (reversed), `rest` the part still
to scan.  Every prefix ending at a `'>'` is a candidate; after a candidate that
is not XML the loop guard `end < len(data) - 1` is evaluated again. -/
def scan (parse : Str → ParseRes M) : Str → Str → FindRes M
  | _, [] => .nothing
  | preRev, c :: cs =>
    if c = '>' then
      match parse (c :: preRev).reverse with
      | .msg m => .found m cs
      | .invalid => .skip cs
      | .notXml => if cs.length < 2 then .nothing else scan parse (c :: preRev) cs
    else scan parse (c :: preRev) cs

/-- `_find_message_in_buffer` -/
def findMessage (parse : Str → ParseRes M) (data : Str) : FindRes M :=
  if data.length < 2 then .nothing else scan parse [] data

theorem dropToKnown_some (tags : List Str) (d : Str) :
    ∀ r, dropToKnown tags d = some r → r ≠ [] ∧ r <:+ d := by
  induction d with
  | nil => intro r h; cases h
  | cons c cs ih =>
    intro r h
    simp only [dropToKnown] at h
    split at h
    · cases h; exact ⟨List.cons_ne_nil _ _, List.suffix_refl _⟩
    · exact (ih r h).imp_right fun hs => hs.trans (List.suffix_cons _ _)

theorem dropToLastLt_some (d : Str) : ∀ r, dropToLastLt d = some r → r ≠ [] ∧ r <:+ d := by
  induction d with
  | nil => intro r h; cases h
  | cons c cs ih =>
    intro r h
    simp only [dropToLastLt] at h
    split at h
    · rename_i r' hr'
      cases h
      exact (ih _ hr').imp_right fun hs => hs.trans (List.suffix_cons _ _)
    · split at h
      · cases h; exact ⟨List.cons_ne_nil _ _, List.suffix_refl _⟩
      · cases h

theorem cleanup_suffix (tags : List Str) (d : Str) : cleanup tags d <:+ d := by
  unfold cleanup
  split
  · exact (dropToKnown_some tags d _ ‹_›).2
  · split
    · exact (dropToLastLt_some d _ ‹_›).2
    · exact List.nil_suffix

theorem cleanup_length_le (tags : List Str) (d : Str) : (cleanup tags d).length ≤ d.length :=
  (cleanup_suffix tags d).length_le

/-- what a result of the scan says: a non-empty candidate `x` stands in front of the returned rest, and
`pre ++ x` is what the parser accepted (`found`) or rejected as a message (`skip`) -/
def Hit (parse : Str → ParseRes M) (pre data : Str) : FindRes M → Prop
  | .found m r => ∃ x, x ≠ [] ∧ data = x ++ r ∧ parse (pre ++ x) = .msg m
  | .skip r => ∃ x, x ≠ [] ∧ data = x ++ r ∧ parse (pre ++ x) = .invalid
  | .nothing => True

theorem Hit.cons {parse : Str → ParseRes M} {pre : Str} {c : Char} {cs : Str} {res : FindRes M}
    (h : Hit parse (pre ++ [c]) cs res) : Hit parse pre (c :: cs) res := by
  cases res with
  | nothing => trivial
  | found m r | skip r =>
    obtain ⟨x, -, h1, h2⟩ := h
    exact ⟨c :: x, List.cons_ne_nil _ _, by rw [h1]; rfl, by simpa using h2⟩

theorem scan_hit (parse : Str → ParseRes M) :
    ∀ (rest preRev : Str), Hit parse preRev.reverse rest (scan parse preRev rest) := by
  intro rest
  induction rest with
  | nil => intro preRev; trivial
  | cons c cs ih =>
    intro preRev
    have hstep : Hit parse preRev.reverse (c :: cs) (scan parse (c :: preRev) cs) :=
      Hit.cons (by simpa using ih (c :: preRev))
    simp only [scan]
    split
    · split
      · exact ⟨[c], List.cons_ne_nil _ _, rfl, by rw [← List.reverse_cons]; assumption⟩
      · exact ⟨[c], List.cons_ne_nil _ _, rfl, by rw [← List.reverse_cons]; assumption⟩
      · split
        · trivial
        · exact hstep
    · exact hstep

theorem findMessage_hit (parse : Str → ParseRes M) (data : Str) : Hit parse [] data (findMessage parse data) := by
  unfold findMessage
  split
  · trivial
  · exact scan_hit parse data []

theorem findMessage_found_length (parse : Str → ParseRes M) (data : Str) (m : M) (r : Str)
    (h : findMessage parse data = .found m r) : r.length < data.length := by
  have := findMessage_hit parse data
  rw [h] at this
  obtain ⟨x, hx, rfl, -⟩ := this
  simpa using List.length_pos_iff.2 hx

theorem findMessage_skip_length (parse : Str → ParseRes M) (data : Str) (r : Str)
    (h : findMessage parse data = .skip r) : r.length < data.length := by
  have := findMessage_hit parse data
  rw [h] at this
  obtain ⟨x, hx, rfl, -⟩ := this
  simpa using List.length_pos_iff.2 hx

/-- the loop of `Buffer.process` on already cleaned-up data: delivered
messages in order, and the retained data -/
def processLoop (parse : Str → ParseRes M) (tags : List Str) (threshold : Option Nat) (data : Str) :
    List M × Str :=
  if hd : data = [] then ([], [])
  else
    match hf : findMessage parse data with
    | .found m rest =>
      let r := processLoop parse tags threshold (cleanup tags rest)
      (m :: r.1, r.2)
    | .skip rest => processLoop parse tags threshold (cleanup tags rest)
    | .nothing =>
      match threshold with
      | some t =>
        if data.length > t then processLoop parse tags threshold (cleanup tags data.tail)
        else ([], data)
      | none => ([], data)
termination_by data.length
decreasing_by
  · have h1 := findMessage_found_length parse data m rest hf
    have h2 := cleanup_length_le tags rest
    omega
  · have h1 := findMessage_skip_length parse data rest hf
    have h2 := cleanup_length_le tags rest
    omega
  · have h2 := cleanup_length_le tags data.tail
    have h3 : data.tail.length < data.length := by
      cases data with
      | nil => exact absurd rfl hd
      | cons c cs => simp
    omega

/-- `Buffer.process` -/
def process (parse : Str → ParseRes M) (tags : List Str) (threshold : Option Nat) (data : Str) :
    List M × Str :=
  processLoop parse tags threshold (cleanup tags data)

/-- `buffer.append(piece); buffer.process(callback)` -/
def feed (parse : Str → ParseRes M) (tags : List Str) (threshold : Option Nat) (data piece : Str) :
    List M × Str :=
  process parse tags threshold (data ++ piece)

/-- a whole session: pieces fed one after the other; the deliveries of every call, and the final buffer -/
def session (parse : Str → ParseRes M) (tags : List Str) (threshold : Option Nat) :
    Str → List Str → List (List M) × Str
  | data, [] => ([], data)
  | data, p :: ps =>
    let r := feed parse tags threshold data p
    let rs := session parse tags threshold r.2 ps
    (r.1 :: rs.1, rs.2)

end Indi.Buf
