/-
  C19 — Outbound messages are whole and in order under every I/O schedule.

  For EVERY schedule (any interleaving of routing, task starts and I/O completions, any
  delays, including a connection whose I/O never completes) the sequence of messages accepted
  by a connection's output, followed by what is still pending in the order it will go out, is
  exactly the sequence routed to it.  Hence the output is always a prefix of the routed sequence
  (whole messages, never interleaved, in routing order), and it is the entire sequence once
  everything has completed.  Routing itself is a step that is always enabled and touches only
  the list of not-yet-started tasks, so a stalled connection delays nobody else.
  Model: Model/Send.lean (send tasks, the FIFO `sender_lock`, one or two awaits per write).
  The lemmas are in this file: one invariant of a step (`step_inv`), from any consistent state.
-/
import Indi.Model.Send

namespace Indi.Send

/-- the state of a connection that is consistent with its transport: a TCP holder awaits one operation -/
def Ok (c : Conn) : Prop :=
  match c.holder with
  | some (_, k) => (c.transport = .tcp → k = 1) ∧ 1 ≤ k ∧ k ≤ 2
  | none => True

/-- taking the free lock: the message goes out at once (TCP) or becomes the first pending one (TTY) -/
theorem acquire_spec (c : Conn) (m : Nat) :
    Ok (acquire c m) ∧ (acquire c m).out ++ pending (acquire c m) = c.out ++ m :: (c.waiters ++ c.notStarted) := by
  cases ht : c.transport <;> simp [acquire, Ok, pending, ht]

theorem step_inv (c : Conn) (s : Step) (hok : Ok c) :
    Ok (step c s) ∧ (step c s).out ++ pending (step c s) = c.out ++ pending c ++ routed [s] := by
  cases s with
  | route m => exact ⟨by simpa [step, Ok] using hok, by simp [step, pending, routed]⟩
  | start =>
    simp only [step]
    cases hn : c.notStarted with
    | nil => exact ⟨hok, by simp [routed]⟩
    | cons m rest =>
      simp only
      split
      · rename_i hfree
        simp only [Bool.and_eq_true, Option.isNone_iff_eq_none, List.isEmpty_iff] at hfree
        obtain ⟨h1, h2⟩ := acquire_spec { c with notStarted := rest } m
        exact ⟨h1, h2.trans (by simp [pending, hfree.1, hfree.2, hn, routed])⟩
      · exact ⟨by simpa [Ok] using hok, by simp [pending, hn, routed]⟩
  | complete =>
    simp only [step]
    cases hh : c.holder with
    | none => exact ⟨hok, by simp [routed]⟩
    | some mk =>
      obtain ⟨m, k⟩ := mk
      simp only [Ok, hh] at hok
      simp only
      split
      · -- two awaits pending: a TTY holder whose write job has just run
        have hk2 : k = 2 := by omega
        subst hk2
        have htty : c.transport ≠ .tcp := fun ht => by have := hok.1 ht; omega
        exact ⟨by simp [Ok, htty], by simp [pending, hh, routed]⟩
      · have hk1 : k = 1 := by omega
        subst hk1
        cases hw : c.waiters with
        | nil => exact ⟨by simp [Ok], by simp [pending, hh, hw, routed]⟩
        | cons w ws =>
          obtain ⟨h1, h2⟩ := acquire_spec { c with holder := none, waiters := ws } w
          exact ⟨h1, h2.trans (by simp [pending, hh, hw, routed])⟩

theorem run_out : ∀ (steps : List Step) (c : Conn), Ok c →
    (run c steps).out ++ pending (run c steps) = c.out ++ pending c ++ routed steps
  | [], c, _ => by simp [run, routed]
  | s :: rest, c, hok => by
    obtain ⟨hok', h'⟩ := step_inv c s hok
    rw [run, List.foldl_cons, ← run, run_out rest _ hok', h', List.append_assoc]
    exact congrArg _ (List.filterMap_append (l := [s]) (l' := rest)).symm

/-- **C19**: under every schedule, output ++ pending = routed -/
theorem C19 (t : Transport) (steps : List Step) :
    (run { transport := t } steps).out ++ pending (run { transport := t } steps) = routed steps := by
  simpa [pending] using run_out steps { transport := t } (by simp [Ok])

/-- whole, in order, never interleaved: the output is always a prefix of what was routed -/
theorem C19_prefix (t : Transport) (steps : List Step) :
    (run { transport := t } steps).out <+: routed steps := by
  rw [← C19 t steps]
  exact List.prefix_append _ _

/-- nothing is lost: once no send is pending any more, the output is everything that was routed -/
theorem C19_complete (t : Transport) (steps : List Step) (h : pending (run { transport := t } steps) = []) :
    (run { transport := t } steps).out = routed steps := by
  rw [← C19 t steps, h, List.append_nil]

/-- a stalled connection delays only itself: routing is always possible and does not depend on, nor change,
anything but the list of tasks waiting to start -/
theorem C19_route_never_blocks (c : Conn) (m : Nat) :
    step c (.route m) = { c with notStarted := c.notStarted ++ [m] } := rfl

/-- the lock is FIFO: when the holder's last awaited I/O completes, the lock goes to the FIRST waiter and the others
keep their order -/
theorem C19_fifo_handover (c : Conn) (m w : Nat) (ws : List Nat) (hh : c.holder = some (m, 1)) (hw : c.waiters = w :: ws) :
    (step c .complete).waiters = ws ∧ ∃ k, (step c .complete).holder = some (w, k) := by
  simp only [step, hh, hw]
  cases c.transport <;> simp [acquire]

/-! non-vacuity: a TTY connection, three messages, the I/O of the first one is slow -/
example : (run { transport := .tty } [.route 1, .route 2, .start, .start, .route 3, .start, .complete, .complete, .complete]).out = [1, 2] := by
  decide

end Indi.Send
