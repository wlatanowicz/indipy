/-
  C10, continued: the arithmetic assumption of `C10_sexa_roundtrip` is discharged for the arithmetic the
  executable model uses (`exactIEEE`: binary64 round-to-nearest-even in the normal range, `Num.flIEEE`),
  so the round trip holds for the model as it runs in the correspondence, not only for an abstract
  correctly-rounding arithmetic.
-/
import Indi.Properties.C10
import Indi.Proofs.NumIEEE

namespace Indi.Num
open Indi Indi.Spec.Num

/-- the model's binary64 rounding has relative error at most 2⁻⁵³ -/
theorem exactIEEE_accurate : Arith.Accurate exactIEEE := fun q => flIEEE_accurate53 q

/-- (c) round trip with the model's own arithmetic: parsing what was rendered gives the value back within the
resolution -/
theorem C10_sexa_roundtrip_ieee (frac base : Nat) (hb : sexaBase frac = some base)
    (x : Rat) (hx : absR x ≤ 10 ^ 9) (text : Str) (h : render exactIEEE (.sexa frac) x = .ok text) :
    ∃ v, strToNum exactIEEE text = .ok (.float v) ∧ absR (v - x) * base ≤ 1 :=
  C10_sexa_roundtrip exactIEEE exactIEEE_accurate frac base hb x hx text h

end Indi.Num
