/-
  C07 — getProperties is answered with exactly the definitions asked for.
  The theorems `C07_response` and `C07_emitted_valid` are in Properties/DevB.lean
  (lemmas in Proofs/DevBResp.lean, Proofs/DevB.lean); `flags_follow_history` (the enabled switches are a function
  of the history) is in Properties/C07b.lean.
-/
import Indi.Properties.DevB
