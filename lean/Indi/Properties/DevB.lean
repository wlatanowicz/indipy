/-
  C07 — theorems about the driver-framework model (Model/Dev.lean)
  against the executable specification (Spec/Dev.lean).  The specification
  predicates `c07Holds`, `readsBack` are the very
  oracles the checks evaluate on the implementation's observed behaviour.
-/
import Indi.Proofs.DevB
import Indi.Proofs.DevBResp

namespace Indi.Dev
open Indi Indi.Spec.Dev

/-- **C07**: a getProperties request elicits exactly one definition per enabled (and wanted) property, listing
every enabled element with its current value and the property's metadata, and otherwise only delProperty notices -/
theorem C07_response (d : Device) (hwf : WF d = true) (m : Msg) (hm : m.tag = s "getProperties") :
    c07Holds d ((alookup (s "name") m.fields).getD none) (fromClient d m).msgs = true :=
  Indi.DevBResp.C07_response d hwf m hm

/-- **C07**: every definition and update a well-formed driver emits, in any operation, is a valid protocol
message that the library's own parser (model `fromXml` over the regenerated class table) reads back unchanged
up to normalisation — PROVIDED BLOB values carry a format (`hfd`, `hfo`: two hypotheses beyond the property's wording;
`devFormats`, `opFormats` in Proofs/DevB.lean say why it needs them) -/
theorem C07_emitted_valid (d : Device) (hwf : WF d = true) (op : Op)
    (hfd : devFormats d = true)       -- EXTRA HYPOTHESIS 1 (see above)
    (hfo : opFormats op = true) :     -- EXTRA HYPOTHESIS 2 (see above)
    ∀ m ∈ (step d op).msgs, readsBack Generated.registry m = true :=
  fun m hm => C03.readsBack_of_valid C03.regW_generated (Indi.DevB.emitted_valid d hwf op hfd hfo m hm)

end Indi.Dev
