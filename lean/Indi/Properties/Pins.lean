/-
  Pins: source literals the hand-written recognisers were written for.  A pin is a change detector, not a property
  obligation: the recogniser itself is tied to the code by the correspondence (`num check`: every string over the number
  alphabet up to a length, random strings of the grammar, hostile texts).  When a pin no longer holds the check does NOT
  report a broken proof - an equivalent rewrite of a regular expression is harmless - it escalates to the thorough
  correspondence depth for the affected recogniser (tools/check.py).
-/
import Indi.Generated.Consts

namespace Indi

/-- the number recogniser the model uses is the one written for exactly these
regular expressions of `checks.number` (pin; a change of the literals shows up here) -/
theorem number_regexps_pinned :
    Generated.numberRegexps =
      [s "^[\\-+]?\\d+$", s "^[\\-+]?\\d+\\.\\d+$", s "^[\\-+]?\\d+\\.$", s "^[\\-+]?\\.\\d+$",
       s "^[\\-+]?\\d+[:; ]\\d{2}$", s "^[\\-+]?\\d+[:; ]\\d{2}\\.\\d+$",
       s "^[\\-+]?\\d+[:; ]\\d{2}[:; ]\\d{2}$", s "^[\\-+]?\\d+[:; ]\\d{2}[:; ]\\d{2}\\.\\d+$"] := by
  decide +kernel

end Indi
