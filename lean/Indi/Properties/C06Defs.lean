/-
  C06: the side conditions of `C06_write` (`worldOk06`, `writesOkFor`, `writesOk`).  They speak of the model only;
  the examples and counterexamples that justify them (Properties/C06Ex.lean) are checked beside the lemma library.
-/
import Indi.Spec.Sys

namespace Indi.Sys
open Indi Indi.Dev Indi.Cli Indi.Spec.Sys Indi.Spec.Dev

/-- no plain Write handler of the element vetoes -/
def noVeto (dd : ElemDef) : Bool := !(dd.writeH.any fun h => !h.async && h.veto)

/-- the number text parses to a value that `check_value` accepts -/
def numOk06 (t : Str) : Bool :=
  numberOk t &&
  match Num.strToNum Num.exactIEEE t with
  | .ok (.int v) => !tooBig v
  | .ok (.float v) => !tooBig v
  | _ => false

/-- a text value travels unchanged: an in-process peer hands the object over as it is (so the text must already
be in the form the wire would give it: trimmed, not empty); over the network only blank text is a problem
(`" "` is read back as `""`, not as absent) -/
def textOk06 (inproc : Bool) (t : Str) : Bool :=
  if inproc then pyStrip t == t && !t.isEmpty else t.isEmpty || !(pyStrip t).isEmpty

/-- the value is in the domain of a property of kind `k` -/
def valOk06 (inproc : Bool) (k : Kind) (cv : CVal) : Bool :=
  match k, cv with
  | .text, .text t => textOk06 inproc t
  | .number, .text t => numOk06 t
  | .switch, .text t => t == s "On" || t == s "Off"
  | .blob, .blob bs f => bs.all (· < 256) && (inproc || f.isSome)
  | _, _ => false

/-- one assignment `(name, value)` of the client is in order for the property `v` -/
def writeOk06 (inproc : Bool) (v : Vec) (w : Str × CVal) : Bool :=
  -- exactly one element of the property has the name (a second one - even a disabled one - would capture the write:
  -- `vector._elements_by_name` keeps the last element of a name, the client addresses the enabled one it knows) ...
  match v.elems.filter (fun e => e.d.name == w.1) with
  | [e] =>
    -- ... it is enabled (a disabled element is not in the client's mirror: assigning to it raises KeyError),
    e.enabled &&
    -- none of its plain Write handlers vetoes (`prevent_default`: by design the element keeps its value),
    noVeto e.d &&
    -- and the value is in the property's domain
    valOk06 inproc v.kind w.2
  | _ => false

/-- the submitted values are in the addressed property's domain; `inproc`: the submitting peer is in-process -/
def writesOkFor (inproc : Bool) (d : Device) (prop : Str) (writes : List (Str × CVal)) : Bool :=
  match findVecByName d prop with
  | none => false                      -- the device has no such property (the client cannot address it)
  | some (gi, vi) =>
    match getVec d gi vi with
    | none => false
    | some (g, v) =>
      -- the property is enabled (a disabled property is not in the client's mirror) and can be written
      vecEnabled g v && v.kind != .light &&
      -- no enabled element of the property has a refreshing Read handler: publishing the update reads every
      -- enabled element, and a Read handler's `reset_value` overrides what was written / changes a sibling
      (v.elems.all fun e => !e.enabled || e.d.refresh.isNone) &&
      writes.all (writeOk06 inproc v)

/-- side condition of C06 on the drivers: property names are distinct within each driver (part of `Spec.Dev.WF`;
`driver._vectors` is keyed by name, so of two properties with one name only the last can be written, while the
client's mirror shows one entry for both) -/
def worldOk06 (devs : List Device) : Bool := devs.all namesDistinct

/-- the submitted values are in the addressed property's domain, whoever submits them: `writesOkFor`
for an in-process peer (text must already be trimmed and non-empty, since the object is
handed over as it is) and for a network peer (a BLOB must carry a format, since `oneBLOB` requires it on the
wire).  The conjuncts of `writesOkFor inproc d prop writes`:
  * `prop` names a property of `d` (found as the driver finds it), which is enabled and not a light property;
  * no enabled element of it has a refreshing Read handler;
  * every `(name, value)`: exactly one element of the property has the name; it is enabled; none of its plain
    Write handlers vetoes; and the value is in the domain (`valOk06`): text as said above; a number text that
    `checks.number` accepts and whose value is finite (`check_value`); `On`/`Off`; bytes `< 256`. -/
def writesOk (d : Device) (prop : Str) (writes : List (Str × CVal)) : Bool :=
  writesOkFor true d prop writes && writesOkFor false d prop writes

end Indi.Sys
