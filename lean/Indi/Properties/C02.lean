/-
  C02 — Stream framing is lossless, ordered and independent of fragmentation
  (abstract level: arbitrary parser, arbitrary tags, both threshold modes).

  `session` is the model of repeated `Buffer.append; Buffer.process`
  (Model/Buf.lean); the stream vocabulary (`Admissible`, `StreamOk`,
  `countDone`) is in Spec/Buf.lean, the lemmas in Proofs/Buf.lean.
-/
import Indi.Proofs.Buf
import Indi.Generated.Registry

namespace Indi.Buf

variable {M : Type}

/-- **C02 (abstract)**: feed ANY list of pieces whose concatenation is a prefix of an
admissible stream; the messages delivered so far are exactly the messages whose last
character has arrived — each once, in order, and no later than the `process` call that
follows the arrival of that character (apply the theorem to every prefix of the partition) -/
theorem C02_abstract (parse : Str → ParseRes M) (tags : List Str) (threshold : Option Nat)
    (hA1 : ParserNeedsOpener parse tags) (hA2 : TagsOk tags)
    (segs : List (Seg M)) (final : Str) (hok : StreamOk parse tags threshold segs final)
    (pieces : List Str) (hpre : pieces.flatten <+: encode segs final) :
    (session parse tags threshold [] pieces).1.flatten =
      (segs.take (countDone segs pieces.flatten.length)).map (·.msg) :=
  (session_stream2 parse tags threshold hA1 hA2 final segs hok.toStreamOk2 pieces hpre).1

/-- fragmentation independence, as a corollary: two partitions of the same prefix deliver the same sequence -/
theorem C02_fragmentation_independent (parse : Str → ParseRes M) (tags : List Str) (threshold : Option Nat)
    (hA1 : ParserNeedsOpener parse tags) (hA2 : TagsOk tags)
    (segs : List (Seg M)) (final : Str) (hok : StreamOk parse tags threshold segs final)
    (p q : List Str) (hp : p.flatten <+: encode segs final) (hpq : p.flatten = q.flatten) :
    (session parse tags threshold [] p).1.flatten = (session parse tags threshold [] q).1.flatten := by
  rw [C02_abstract parse tags threshold hA1 hA2 segs final hok p hp,
    C02_abstract parse tags threshold hA1 hA2 segs final hok q (hpq ▸ hp), hpq]

/-- (A2) on the repository's class table: no tag contains `'<'` -/
theorem generated_tagsOk : TagsOk (Generated.messageClasses.map (·.tag)) := by
  intro t ht
  revert t
  decide +kernel

/-- the threshold values the theorems are instantiated with: the default of `Buffer`, and `None`
on the client's BLOB connection -/
theorem generated_thresholds : Generated.defaultThreshold = some 2048 ∧ Generated.blobConnThreshold = none := by
  decide

/-! non-vacuity: a toy parser and a two-message stream with junk, cut inside both elements -/

def toyTags : List Str := [s "a", s "b"]
def toyParse (x : Str) : ParseRes Nat :=
  if x = s "<a/>" then .msg 1 else if x = s "<b>x</b>" then .msg 2 else .notXml

example : (session toyParse toyTags (some 16) [] [s "??<a", s "/>\n<?", s "j?><b>x<", s "/b>zz"]).1 = [[], [1], [], [2]] := by
  decide +kernel

end Indi.Buf
