/-
  C16 — Client change events are complete and exact.  The theorems (C16_events, C16_deliveries,
  C16_removed, C16_only_registered, C16_changed_only, C16_chain_always, C16_chain, C16_old_is_previous_new) are in
  Properties/C15.lean together with C15's, because they share the lemmas about the mirror.
-/
import Indi.Properties.C15
