/-
  C06: the hypotheses of `C06_write` are satisfiable, and each added one is needed (kernel-checked on the model).
-/
import Indi.Properties.C06Defs
import Indi.Generated.Registry

namespace Indi.Sys.Ex06
open Indi Indi.Dev Indi.Cli Indi.Spec.Sys Indi.Sys

def reg := Generated.registry

def el (n : String) (v : Value) (en : Bool := true) (fmt : String := "") (veto : Bool := false)
    (refresh : Option Value := none) : Dev.Elem :=
  { d := { name := s n, label := s n, format := s fmt, min := s "0", max := s "0", step := s "0",
           writeH := if veto then [{ id := 1, async := false, veto := true }] else [], refresh := refresh },
    value := v, enabled := en }

def vec (n : String) (k : Kind) (elems : List Dev.Elem) (en : Bool := true) : Vec :=
  { name := s n, label := s n, kind := k, perm := some (s "rw"), timeout := some (s "60"),
    rule := if k = .switch then some .oneOfMany else none, state := s "Ok", enabled := en, elems := elems }

def dev (n : String) (vecs : List Vec) : Device := { name := s n, groups := [{ name := s "Main", enabled := true, vecs := vecs }] }

/-- peers: network with BLOBs, network without, in-process -/
def kinds : List (Bool × Bool × Bool) := [(true, false, false), (false, false, false), (false, true, false)]

/-- the conclusion of `C06_write` fails -/
def fails (w : World) (ci : Nat) (dv prop : String) (writes : List (Str × CVal)) : Bool :=
  (w.devs.zip (react reg w (.write ci (s dv) (s prop) writes)).1).any fun p =>
    !c06Holds p.1 (s dv) (s prop) (writes.map fun nv => (nv.1, asValue nv.2)) p.2

/-- all hypotheses of `C06_write` hold -/
def hyps (w : World) (ci : Nat) (dv prop : String) (writes : List (Str × CVal)) : Bool :=
  worldOk06 w.devs && allSynced w && decide (ci < w.peers.length) &&
  w.devs.all fun d => d.name != s dv || writesOk d (s prop) writes

/-! ### a non-trivial instance: two drivers, all four writable kinds, network and in-process peers -/

def mount : Device := dev "mount"
  [vec "COORD" .number [el "ra" (.num 1 false) true "%9.6m", el "dec" (.num 2 false) true "%5.2f", el "hid" (.num 0 true) false "%d"],
   vec "NAME" .text [el "site" (.text (s "home")), el "obs" .none],
   vec "TRACK" .switch [el "on" (.text (s "Off")), el "off" (.text (s "On"))],
   vec "FW" .blob [el "image" .none]]

def cam : Device := dev "cam" [vec "NAME" .text [el "site" (.text (s "x"))]]

def w0 : World := start reg [mount, cam] kinds

example :
    hyps w0 0 "mount" "COORD" [(s "ra", .text (s "12:30:15.5")), (s "dec", .text (s "-3.25")), (s "ra", .text (s "7"))] = true ∧
    hyps w0 2 "mount" "COORD" [(s "dec", .text (s "+.5\n"))] = true ∧
    hyps w0 2 "mount" "NAME" [(s "obs", .text (s "me and you"))] = true ∧
    hyps w0 1 "mount" "TRACK" [(s "on", .text (s "On"))] = true ∧
    hyps w0 0 "mount" "FW" [(s "image", .blob [1, 2, 255] (some (s ".bin")))] = true := by
  decide +kernel


/-! ### counterexamples: what goes wrong without each conjunct (every world below is synchronised by the real
handshake, `allSynced`, and the conclusion of `C06_write` fails) -/

def base (w : World) : Bool := allSynced w

/-- `worldOk06` (distinct property names): the driver has two enabled properties named `P` with the same content;
a client sees one property `P`.  It writes `x := "new"`: `driver._vectors["P"]` is the second one, which takes the
value; the first keeps `"old"`. -/
def wNames : World := start reg [dev "d" [vec "P" .text [el "x" (.text (s "old"))], vec "P" .text [el "x" (.text (s "old"))]]] kinds
theorem C06_needs_distinct_property_names :
    base wNames = true ∧ worldOk06 wNames.devs = false ∧
    (wNames.devs.all fun d => writesOk d (s "P") [(s "x", .text (s "new"))]) = true ∧
    fails wNames 0 "d" "P" [(s "x", .text (s "new"))] = true := by decide +kernel

/-- exactly one element has the name: the property has an enabled element `x` and a disabled element also named
`x`.  The client knows the enabled one and writes it; `vector._elements_by_name["x"]` is the later, disabled one,
which takes the value; the enabled one keeps `"old"`. -/
def wDup : World := start reg [dev "d" [vec "P" .text [el "x" (.text (s "old")), el "x" (.text (s "hidden")) false]]] kinds
theorem C06_needs_unique_element_name :
    base wDup = true ∧ worldOk06 wDup.devs = true ∧ fails wDup 0 "d" "P" [(s "x", .text (s "new"))] = true := by
  decide +kernel

/-- the element is enabled: a disabled element is not in the client's mirror; assigning to it raises (KeyError)
and nothing is sent. -/
def wDis : World := start reg [dev "d" [vec "P" .text [el "x" (.text (s "old")), el "y" (.text (s "old")) false]]] kinds
theorem C06_needs_enabled_element :
    base wDis = true ∧ worldOk06 wDis.devs = true ∧ fails wDis 0 "d" "P" [(s "y", .text (s "new"))] = true := by
  decide +kernel

/-- the property is enabled: a disabled property is not in the client's mirror. -/
def wDisP : World := start reg [dev "d" [vec "P" .text [el "x" (.text (s "old"))] false]] kinds
theorem C06_needs_enabled_property :
    base wDisP = true ∧ worldOk06 wDisP.devs = true ∧ fails wDisP 0 "d" "P" [(s "x", .text (s "new"))] = true := by
  decide +kernel

/-- no vetoing Write handler: a plain Write handler that calls `prevent_default` keeps the old value (by design). -/
def wVeto : World := start reg [dev "d" [vec "P" .text [el "x" (.text (s "old")) true "" true]]] kinds
theorem C06_needs_no_veto :
    base wVeto = true ∧ worldOk06 wVeto.devs = true ∧ fails wVeto 0 "d" "P" [(s "x", .text (s "new"))] = true := by
  decide +kernel

/-- no refreshing Read handler on an enabled element: the sibling `y` holds `"a"` but its Read handler resets it to
`"b"` whenever it is read.  The write to `x` publishes the property, which reads `y`: `y` changes although it was not
written.  (The peers were synchronised by the handshake, which already showed them `"b"`; the driver's stored value
was still `"a"`.) -/
def wRefresh : World :=
  { devs := [dev "d" [vec "P" .text [el "x" (.text (s "old")), el "y" (.text (s "a")) true "" false (some (.text (s "b")))]]],
    peers := (start reg [dev "d" [vec "P" .text [el "x" (.text (s "old")), el "y" (.text (s "a")) true "" false (some (.text (s "b")))]]] kinds).peers }
theorem C06_needs_no_refresh :
    base wRefresh = true ∧ worldOk06 wRefresh.devs = true ∧ fails wRefresh 0 "d" "P" [(s "x", .text (s "new"))] = true := by
  decide +kernel

def wText : World := start reg [dev "d" [vec "P" .text [el "x" (.text (s "old"))]]] kinds

/-- text from an in-process peer must be trimmed: the object is handed over as it is, the element takes `" a "`,
while `c06Holds` (text as it travels) expects `"a"`; likewise `""` is stored as `""`, not as absent. -/
theorem C06_needs_trimmed_text_inproc :
    base wText = true ∧ worldOk06 wText.devs = true ∧
    fails wText 2 "d" "P" [(s "x", .text (s " a "))] = true ∧ fails wText 2 "d" "P" [(s "x", .text [])] = true ∧
    -- the same writes by the network peer are fine
    fails wText 0 "d" "P" [(s "x", .text (s " a "))] = false ∧ fails wText 0 "d" "P" [(s "x", .text [])] = false := by
  decide +kernel

/-- blank text over the network: `" "` is serialised, read back by `from_xml` as `""` (C03's finding) and stored as
`""`, while the normalisation `c06Holds` uses says absent (`None`). -/
theorem C06_needs_nonblank_text_network :
    fails wText 0 "d" "P" [(s "x", .text (s " "))] = true := by decide +kernel

def wNum : World := start reg [dev "d" [vec "N" .number [el "x" (.num 1 false) true "%f"]]] kinds

/-- a number text must pass `checks.number` (else `OneNumber(...)` raises in `submit()` and nothing is sent) and
denote a finite value (else `check_value` raises and the element keeps its value) -/
theorem C06_needs_number_domain :
    base wNum = true ∧ worldOk06 wNum.devs = true ∧
    fails wNum 0 "d" "N" [(s "x", .text (s " 3 "))] = true ∧
    fails wNum 0 "d" "N" [(s "x", .text (s "1e5"))] = true ∧
    fails wNum 0 "d" "N" [(s "x", .text ('1' :: List.replicate 400 '0'))] = true ∧
    fails wNum 0 "d" "N" [(s "x", .text (s "3"))] = false := by
  decide +kernel

def wBlob : World := start reg [dev "d" [vec "B" .blob [el "x" .none]]] kinds

/-- a BLOB written by a network peer must carry a format (`oneBLOB` without `format`: `from_xml` raises TypeError,
the message is dropped); the in-process peer's write is fine.  Bytes must be bytes (a model artefact: `300` is
encoded as `"/A=="` and comes back as `252`). -/
theorem C06_needs_blob_domain :
    base wBlob = true ∧ worldOk06 wBlob.devs = true ∧
    fails wBlob 0 "d" "B" [(s "x", .blob [1] none)] = true ∧
    fails wBlob 2 "d" "B" [(s "x", .blob [1] none)] = false ∧
    fails wBlob 0 "d" "B" [(s "x", .blob [300] (some (s ".bin")))] = true := by
  decide +kernel

def wLight : World := start reg [dev "d" [vec "L" .light [el "x" (.text (s "Ok"))]]] kinds

/-- lights cannot be written -/
theorem C06_needs_writable_kind :
    base wLight = true ∧ worldOk06 wLight.devs = true ∧ fails wLight 0 "d" "L" [(s "x", .text (s "Busy"))] = true := by
  decide +kernel


def wSwitch : World := start reg [dev "d" [vec "S" .switch [el "a" (.text (s "On")), el "b" (.text (s "Off"))]]] kinds

/-- REMARK (no counterexample): for switch properties `c06Holds` demands nothing of the values (they are subject
to the rule, C09), so a rejected value (`OneSwitch(value="Maybe")` raises in `submit()`, nothing is sent) does not
falsify the statement.  `valOk06` nevertheless asks for `On`/`Off`: it is what makes the part accepted, and the
proof goes through the submitted message. -/
theorem C06_switch_values_remark :
    base wSwitch = true ∧ fails wSwitch 0 "d" "S" [(s "a", .text (s "Maybe"))] = false ∧
    fails wSwitch 0 "d" "S" [(s "b", .text (s "On"))] = false := by
  decide +kernel

end Indi.Sys.Ex06
