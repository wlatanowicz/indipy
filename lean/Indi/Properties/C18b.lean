/-
  C18 / C12 at the connection level: theorems over the server model (Model/Conn.lean) — the handler's control flow
  composed with framing, parsing and routing.  They are projections of the normal form of a step in Proofs/Conn.lean
  (`step_fst`: routing, then the end of at most one handler; `quiet_spec`, `step_other`), where `conn?`, `ends`, `WF` and
  `admissible` are defined.
-/
import Indi.Proofs.Conn
import Indi.Properties.C11

namespace Indi.Conn
open Indi

theorem wf_init : WF {} := by
  refine ⟨?_, ?_, ?_, ?_, ?_, ?_⟩ <;> simp [Rtr.init]

/-- well-formedness is an invariant of every admissible event -/
theorem wf_step (sv : Server) (e : Event) (h : WF sv) (ha : admissible sv e) : WF (step sv e).1 := by
  rw [step_fst]
  split
  · exact wf_close _ (quiet_spec h ha).1
  · exact (quiet_spec h ha).1

/-- **C18**: however connection `i` ends — end of file, read error, or an exception while one of its messages is being
handled, at whatever point of the session — afterwards it is not served any more, its writer is closed (TCP), the router
does not know it and keeps no BLOB settings for it -/
theorem C18_ending_cleans (sv : Server) (e : Event) (i : Nat) (c : Conn) (h : WF sv)
    (hc : conn? sv i = some c) (hs : c.serving = true) (he : ends sv i e = true) :
    ∃ c', conn? (step sv e).1 i = some c' ∧ c'.serving = false ∧ c'.writerClosed = c.tcp ∧
      i ∉ (step sv e).1.router.clients ∧ Rtr.nlookup i (step sv e).1.router.blob = none := by
  -- an event that ends a connection is not a `connect`, so it is admissible
  have ha : admissible sv e := by cases e <;> first | trivial | cases he
  obtain ⟨hwf, hq⟩ := quiet_spec h ha
  obtain ⟨⟨rest, hc', -⟩, -⟩ := hq i c hc
  rw [step_fst, closing_eq_some.2 ⟨c, hc, hs, he⟩]
  obtain ⟨h1, h2, h3⟩ := close_cleans hwf hc'
  exact ⟨_, h1, rfl, rfl, h2, h3⟩

/-- a connection that has ended stays ended, and nothing is ever delivered to it again -/
theorem C18_ended_is_final (sv : Server) (e : Event) (i : Nat) (c : Conn) (h : WF sv) (ha : admissible sv e)
    (hc : conn? sv i = some c) (hs : c.serving = false) :
    conn? (step sv e).1 i = some c ∧ i ∉ (step sv e).1.router.clients ∧
      ∀ ds ∈ (step sv e).2.deliveries, Rtr.Target.cli i ∉ ds := by
  have hni : i ∉ sv.router.clients := fun hi => by
    have := (h.2.1 c (conn?_mem hc).1).mpr ((conn?_mem hc).2 ▸ hi)
    rw [hs] at this; cases this
  obtain ⟨⟨rest, h1, hr⟩, h2⟩ := step_other h ha hc fun hcl => by
    obtain ⟨c', hc', hs', -⟩ := closing_eq_some.1 hcl
    rw [hc] at hc'; cases hc'
    rw [hs] at hs'; cases hs'
  rw [hr hs] at h1
  exact ⟨h1, fun hi => hni (h2.1 hi), fun ds hd hm => hni (step_deliveries sv e ds hd i hm)⟩

/-- **C12 at the connection level / C18 "the others stay served"**: an event that does not end connection `i` leaves it
served, registered and with its writer open -/
theorem serving_stays (sv : Server) (e : Event) (i : Nat) (c : Conn) (h : WF sv) (ha : admissible sv e)
    (hc : conn? sv i = some c) (hs : c.serving = true) (he : ends sv i e = false) :
    ∃ c', conn? (step sv e).1 i = some c' ∧ c'.serving = true ∧ c'.writerClosed = c.writerClosed ∧
      i ∈ (step sv e).1.router.clients := by
  obtain ⟨⟨rest, h1, -⟩, h2⟩ := step_other h ha hc fun hcl => by
    obtain ⟨_, _, _, he'⟩ := closing_eq_some.1 hcl
    rw [he] at he'; cases he'
  exact ⟨_, h1, hs, rfl, h2.2 ((conn?_mem hc).2 ▸ (h.2.1 c (conn?_mem hc).1).mp hs)⟩

/-- in particular no client message whatsoever — any bytes, any number of complete, partial, hostile or junk elements in
a chunk — ends the connection, as long as no device raises -/
theorem C12_any_bytes_keep_serving (sv : Server) (i : Nat) (c : Conn) (chunk : Str) (h : WF sv)
    (hc : conn? sv i = some c) (hs : c.serving = true) :
    ∃ c', conn? (step sv (.recv i chunk none)).1 i = some c' ∧ c'.serving = true ∧
      i ∈ (step sv (.recv i chunk none)).1.router.clients := by
  have he : ends sv i (.recv i chunk none) = false := by
    simp only [ends, hc, decide_true, Bool.true_and]
    exact (routeAll_spec i none _ sv.router 0).2.2 rfl
  obtain ⟨c', h1, h2, _, h4⟩ := serving_stays sv (.recv i chunk none) i c h trivial hc hs he
  exact ⟨c', h1, h2, h4⟩

/-- what the receive buffer of a served connection retains after any chunk is within the junk-recovery threshold -/
theorem retained_bounded (sv : Server) (i : Nat) (c : Conn) (chunk : Str) (t : Nat)
    (ht : Generated.defaultThreshold = some t)
    (hc : conn? sv i = some c) (hs : c.serving = true) :
    ∀ c', conn? (step sv (.recv i chunk none)).1 i = some c' → c'.data.length ≤ t := by
  intro c' hc'
  rw [step_recv_plain sv i chunk c hc hs rfl, conn?_setData hc, if_pos rfl, ht] at hc'
  cases hc'
  exact Buf.C11_bounded parseMsg tags t (c.data ++ chunk)

/-! ### non-vacuity: a concrete session -/

/-- two drivers, a TCP client (0) and a TTY client (1); client 0 asks for the BLOBs of "A" -/
def exSession : List Event :=
  [.device { id := 0, name := some (s "A") }, .device { id := 1, name := some (s "B") },
   .connect 0 true, .connect 1 false,
   .recv 0 (s "<enableBLOB device=\"A\">Also</enableBLOB>") none]

/-- the request reached the router (the setting is recorded and the message went to driver "A") … -/
example :
    Rtr.nlookup 0 (run {} exSession).1.router.blob = some [(some (s "A"), .also)] ∧
    ((run {} exSession).2.map (·.deliveries)).getLast? = some [[.dev 0]] ∧
    (conn? (run {} exSession).1 0).map (·.serving) = some true := by decide +kernel

/-- … and after the end of file connection 0 is not served, its writer is closed, the router has forgotten it and its
settings, while connection 1 is still served and registered -/
example :
    (conn? (run {} (exSession ++ [.eof 0])).1 0).map (fun c => (c.serving, c.writerClosed)) = some (false, true) ∧
    0 ∉ (run {} (exSession ++ [.eof 0])).1.router.clients ∧
    Rtr.nlookup 0 (run {} (exSession ++ [.eof 0])).1.router.blob = none ∧
    (conn? (run {} (exSession ++ [.eof 0])).1 1).map (fun c => (c.serving, c.writerClosed)) = some (true, false) ∧
    1 ∈ (run {} (exSession ++ [.eof 0])).1.router.clients := by decide +kernel

end Indi.Conn
