/-
  C18 — Every way a connection can end leaves the router clean and the others served.

  Both server transports funnel every way a connection can end — orderly EOF, a read error,
  EOF inside a message, junk then EOF, an exception while one of its messages is handled —
  into the same two actions: close the writer, `Router.unregister_client(self)`
  (`handler_func` / `handle`: `try: await wait_for_messages() except: log` then `close()`).
  That funnel is control flow of the handlers and is tied to the code by the `conn`
  correspondence (fault injection at every step).  What unregistration achieves is proved here
  on the router model, for every history: the connection is in neither `clients` nor
  `blob_routing`, nothing routed afterwards is delivered to it, every other connection keeps its
  registration and its policies, and a peer that reconnects starts from the default policy.
  Lemmas: `unreg_spec` (Proofs/RtrDeliver.lean), `policyOf_snoc` (Proofs/Rtr.lean) and C05's
  theorems; the connection level is in Properties/C18b.lean.
-/
import Indi.Properties.C05

namespace Indi.Rtr
open Indi.Spec.Rtr Indi

/-- after the connection ended (in a history without double registration) the router has forgotten it -/
theorem C18_forgotten (h : List Op) (hwf : WellFormed h) (c : Nat) :
    c ∉ (run (h ++ [.unreg c])).clients ∧ nlookup c (run (h ++ [.unreg c])).blob = none := by
  rw [run_snoc]
  have := unreg_spec (run h) (clients_are_registered h hwf).1 (keys_run h) c
  exact ⟨this.1, this.2.1⟩

/-- no message routed afterwards is delivered to it, until it registers again -/
theorem C18_no_delivery_after (h : List Op) (hwf : WellFormed h) (c : Nat) (m : RMsg) (sd : Sender) :
    Target.cli c ∉ (step (run (h ++ [Op.unreg c])) (Op.send m sd)).2 := by
  intro hm
  have h1 := (C05_clients (h ++ [Op.unreg c]) m sd c).mp hm
  exact (C18_forgotten h hwf c).1 h1.2.1

/-- every other connection keeps its registration -/
theorem C18_others_stay (h : List Op) (hwf : WellFormed h) (c c' : Nat) (hne : c' ≠ c) :
    c' ∈ (run (h ++ [.unreg c])).clients ↔ c' ∈ (run h).clients := by
  rw [run_snoc]
  exact (unreg_spec (run h) (clients_are_registered h hwf).1 (keys_run h) c).2.2 c' hne

/-- … and its policies, for every device -/
theorem C18_others_policies (h : List Op) (c c' : Nat) (hne : c' ≠ c) (d : Option Str) :
    policyOf (h ++ [.unreg c]) c' d = policyOf h c' d :=
  (policyOf_snoc h _ c' d).trans (if_neg (Ne.symm hne))

/-- so what the others receive of later device traffic is what they would have received anyway -/
theorem C18_others_served (h : List Op) (hwf : WellFormed h) (c c' : Nat) (hne : c' ≠ c) (m : RMsg) (sd : Sender)
    (hm : (m.fromClient && m.isEnableBlob) = false) :
    Target.cli c' ∈ (step (run (h ++ [.unreg c])) (.send m sd)).2 ↔ Target.cli c' ∈ (step (run h) (.send m sd)).2 := by
  rw [C05_clients, C05_clients, C18_others_stay h hwf c c' hne,
    policyOf_send_other _ m sd hm, policyOf_send_other _ m sd hm, C18_others_policies h c c' hne]

/-- a peer that reconnects starts from the default settings -/
theorem C18_reconnect_default (h : List Op) (c : Nat) (d : Option Str) :
    policyOf (h ++ [.unreg c, .regCli c]) c d = .never := by
  rw [List.append_cons]
  exact (C05_reregister_resets _ c d).1

/-! non-vacuity -/
example : (run (exHist5 ++ [.unreg 11])).clients = [10, 12] := by decide +kernel
example : (step (run (exHist5 ++ [.unreg 11])) (.send exBlob (.dev 0))).2 = [.cli 12] := by decide +kernel

end Indi.Rtr
