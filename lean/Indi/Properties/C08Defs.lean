/-
  C08: the side conditions of `C08_publish` (`worldOk08`, `blobElemAt`).  They speak of the model only; the examples
  and counterexamples that justify them (Properties/C08Ex.lean) are checked beside the lemma library.
-/
import Indi.Spec.Sys

namespace Indi.Sys
open Indi Indi.Dev Indi.Cli Indi.Spec.Sys Indi.Spec.Dev

/-- a BLOB value carries a format (`values.BLOB.format` is a `str`, as annotated, not `None`) -/
def blobValOk : Value → Bool
  | .blob _ f => f.isSome
  | _ => true

def enabledElems (v : Vec) : List Dev.Elem := v.elems.filter (·.enabled)

/-- what C08 needs of a BLOB property (other kinds: nothing) -/
def vecOk08 (v : Vec) : Bool :=
  v.kind != .blob ||
    -- (1) every enabled element's value carries a format (or is unset).  Why: the update lists ALL enabled
    -- elements; a `oneBLOB` without `format` makes `from_xml` raise TypeError (required keyword), the whole
    -- update is skipped by a network client and it never sees the new bytes
    -- (`C08_publish_needs_format` in Properties/C08Ex.lean; the case behind C07's hypothesis `devFormats`).
    ((v.elems.all fun e => !e.enabled || blobValOk e.value) &&
    -- (2) enabled elements have distinct names.  Why: the client keeps the elements of a property in a dict keyed
    -- by name; of two children with the same name the later one overwrites what the earlier one stored
    -- (`C08_publish_needs_distinct_names`).
     decide ((enabledElems v).map (·.d.name)).Nodup)

/-- side conditions of C08 on the drivers: every driver is well-formed (`Spec.Dev.WF`: values are of their
element's kind - so every enabled BLOB element renders -, property names are distinct, states are valid - so
the update is a valid `setBLOBVector`), and `vecOk08` for every property.  Nothing is demanded of the bytes
stored in other elements, nor of device names. -/
def worldOk08 (devs : List Device) : Bool :=
  devs.all fun d => WF d && d.groups.all fun g => g.vecs.all vecOk08

/-- EXTRA HYPOTHESIS of `C08_publish`: the address names an existing element of a BLOB
property of the driver.  `c08Holds` is `false` for an address that names nothing (`C08_publish_needs_address`),
and an element of another kind rejects a byte string (AssertionError) and keeps its value, which is then not a
BLOB value. -/
def blobElemAt (d : Device) (a : Addr) : Bool :=
  match getVec d a.g a.v with
  | some (_, v) => v.kind == .blob && (v.elems[a.e]?).isSome
  | none => false

end Indi.Sys
