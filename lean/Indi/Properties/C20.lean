/-
  C20 — Message equality is structural.

  `pyEq` is the model of `other.__class__ == self.__class__ and
  self.to_dict() == other.to_dict()` (indi/message/base.py); `Msg` is the wire
  view: kind, every attribute, text value, the complete ordered child list with
  each child's kind, attributes and value.  The theorem holds for every
  registry passing the decidable well-formedness check `regOk`; the instance
  for the table regenerated from the repository is discharged by `decide +kernel`
  (kernel evaluation, `generated_regOk`).
  `regOk`, `Built`, Python's `dict == dict` on association lists with unique
  keys (`dictEq_dictOf_iff`) and the comparison of child lists (`childDictsEq_iff`)
  are in Proofs/MsgEq.lean.
-/
import Indi.Proofs.MsgEq
import Indi.Generated.Registry

namespace Indi

/-- **C20** for every well-formed registry: two constructed messages compare
equal exactly when they are of the same kind and agree on every attribute, on
the text value and on the complete ordered sequence of their children -/
theorem C20 {reg : Registry} (hreg : regOk reg = true) (a b : Msg)
    (ha : a.Built reg) (hb : b.Built reg) : pyEq a b = true ↔ a = b := by
  obtain ⟨hnd, hok⟩ := (regOk_unpack hreg).1
  obtain ⟨c, hc, hct, hcf, hcc, hcp⟩ := ha
  obtain ⟨hn, hv, hlen⟩ := classOk_names (hok c hc)
  constructor
  · intro h
    simp only [pyEq, Bool.and_eq_true, beq_iff_eq] at h
    obtain ⟨⟨htag, hd⟩, hch⟩ := h
    obtain ⟨c', hc', hct', hcf', hcc', hcp'⟩ := hb
    have : c = c' := class_unique hnd hc hc' (by rw [hct, hct', htag])
    subst this
    have hf := (dictEq_dictOf_iff hcf hcf' hn hv (children_not_mem_scalarNames c)).mp hd
    obtain ⟨ta, fa, cha⟩ := a
    obtain ⟨tb, fb, chb⟩ := b
    simp only at htag hf hch hcp hcp'
    subst htag hf
    cases cha with
    | none => cases chb with
      | none => rfl
      | some y => simp at hch
    | some x => cases chb with
      | none => simp at hch
      | some y => rw [(childDictsEq_iff hreg hlen _ _ (hcp _ rfl) (hcp' _ rfl)).mp hch]
  · intro h
    subst h
    simp only [pyEq, Bool.and_eq_true, beq_iff_eq, true_and]
    refine ⟨(dictEq_dictOf_iff hcf hcf hn hv (children_not_mem_scalarNames c)).mpr rfl, ?_⟩
    cases hch : a.children with
    | none => rfl
    | some x => exact (childDictsEq_iff hreg hlen _ _ (hcp _ hch) (hcp _ hch)).mpr rfl

/-- the class table regenerated from the repository is well-formed -/
theorem generated_regOk : regOk Generated.registry = true := by decide +kernel

/-- **C20** on the repository's own class table -/
theorem C20_generated (a b : Msg) (ha : a.Built Generated.registry) (hb : b.Built Generated.registry) :
    pyEq a b = true ↔ a = b := C20 generated_regOk a b ha hb

/-- in particular: messages that differ in any child — not just the last one —
or in the number of children compare unequal -/
theorem C20_children_differ (a b : Msg) (ha : a.Built Generated.registry) (hb : b.Built Generated.registry)
    (h : a.children ≠ b.children) : pyEq a b = false := by
  cases hp : pyEq a b with
  | false => rfl
  | true => exact absurd (congrArg Msg.children ((C20_generated a b ha hb).mp hp)) h

/-! non-vacuity: a concrete two-child `setTextVector` is `Built`, and changing
its *first* child is detected -/

def exA : Msg :=
  { tag := s "setTextVector",
    fields := [(s "device", some (s "D")), (s "name", some (s "P")), (s "state", some (s "Ok")),
               (s "timeout", none), (s "timestamp", none), (s "message", none)],
    children := some [{ tag := s "oneText", fields := [(s "name", some (s "a")), (s "value", some (s "1"))] },
                      { tag := s "oneText", fields := [(s "name", some (s "b")), (s "value", some (s "2"))] }] }

def exB : Msg :=
  { exA with children := some [{ tag := s "oneText", fields := [(s "name", some (s "a")), (s "value", some (s "X"))] },
                               { tag := s "oneText", fields := [(s "name", some (s "b")), (s "value", some (s "2"))] }] }

def builtB (reg : Registry) (m : Msg) : Bool :=
  reg.messages.any fun c => c.tag = m.tag && m.fields.map Prod.fst = scalarNames c &&
    (m.children.isSome = hasChildren c) &&
    (m.children.getD []).all fun p => (childTags c).contains p.tag &&
      reg.parts.any fun pc => pc.tag = p.tag && p.fields.map Prod.fst = scalarNames pc

theorem built_of_builtB {reg : Registry} {m : Msg} (h : builtB reg m = true) : m.Built reg := by
  simp only [builtB, List.any_eq_true, Bool.and_eq_true, decide_eq_true_eq, List.all_eq_true,
    List.contains_eq_mem] at h
  obtain ⟨c, hc, ⟨⟨ht, hf⟩, hch⟩, hp⟩ := h
  refine ⟨c, hc, ht, hf, hch, ?_⟩
  intro ps hps p hpm
  rw [hps] at hp
  exact hp p hpm

example : exA.Built Generated.registry := built_of_builtB (by decide +kernel)
example : exB.Built Generated.registry := built_of_builtB (by decide +kernel)
example : pyEq exA exB = false := by decide +kernel
example : pyEq exA exA = true := by decide +kernel

end Indi
