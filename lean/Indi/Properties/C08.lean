/-
  C08 — BLOB payloads arrive bit-exact in both directions and never stall a link.
  Codec: Model/B64.lean (`binascii`-compatible base64), proofs in Proofs/B64.lean.
  Deployment: Model/Sys.lean, Spec: `Spec.Sys.c08Holds` (the check's oracle).
  Lemmas: Proofs/SysB64.lean (one BLOB part, written and read), Proofs/Sys08.lean, ending in `publish_core`; the
  side conditions `worldOk08`, `blobElemAt`: Properties/C08Defs.lean.

  `C08_publish` has, beside the side condition `worldOk08`, the extra hypothesis `ha` (the address names an existing
  BLOB element); `ha` and the two conjuncts of `vecOk08` are each shown to be necessary by a kernel-checked
  counterexample in Properties/C08Ex.lean, which nothing here uses: it is imported so that whoever builds this module
  checks them too.
-/
import Indi.Proofs.B64
import Indi.Proofs.Sys08
import Indi.Properties.C08Ex

namespace Indi.Sys
open Indi Indi.Dev Indi.Cli Indi.Spec.Sys

/-- base64: decoding the encoding of any byte string gives the byte string back -/
theorem C08_codec (bs : List Nat) (h : ∀ b ∈ bs, b < 256) : B64.decode (B64.encode bs) = .ok bs :=
  B64.decode_encode bs h

/-- the encoded payload contains no character that XML would escape or a parser would alter -/
theorem C08_codec_chars (bs : List Nat) (h : ∀ b ∈ bs, b < 256) : ∀ c ∈ B64.encode bs, c ∈ B64.alphabet ∨ c = '=' :=
  B64.encode_chars bs

/-- the declared length of the encoded text -/
theorem C08_codec_length (bs : List Nat) : (B64.encode bs).length = 4 * ((bs.length + 2) / 3) :=
  B64.encode_length bs

/-- **C08** (driver → client, one element): the part a driver publishes for a BLOB value, read by a client after
the wire (`Spec.Dev.normPart`: the normalisation up to which C03 compares a part with what `from_xml ∘ to_xml` makes of
it; the exact image is `C03.canonPart`, which differs on blank text only), decodes to identical bytes, format and
length -/
theorem C08_down (e : Dev.Elem) (bs : List Nat) (f : Str) (h : ∀ b ∈ bs, b < 256)
    (hv : readValue e = .blob bs (some f)) :
    ∃ p, onePart .blob e = .ok p ∧ blobFromPart (Spec.Dev.normPart p) = .ok (.blob bs (some f)) := by
  refine ⟨_, onePart_blob e bs (some f) hv, ?_⟩
  rw [normPart_blobPart]
  exact blobFromPart_read _ _ bs _ h (normVal_encode bs)

/-- the hypotheses of `C08_down` are satisfiable -/
example : ∃ (e : Dev.Elem) (bs : List Nat) (f : Str), (∀ b ∈ bs, b < 256) ∧ bs ≠ [] ∧
    readValue e = .blob bs (some f) :=
  ⟨{ d := { name := s "img", label := s "Image" }, value := .blob [0, 255, 77] (some (s ".fits")), enabled := true },
   [0, 255, 77], s ".fits", by decide +kernel⟩

/-- **C08** (client → driver, one element): the part a client submits for a BLOB value, read by the driver after
the wire, yields identical bytes and format -/
theorem C08_up (name : Option Str) (bs : List Nat) (f : Option Str) (h : ∀ b ∈ bs, b < 256) :
    ∃ p, newPart .blob name (.blob bs f) = some p ∧ valueFromPart .blob (Spec.Dev.normPart p) = .ok (.blob bs f) := by
  refine ⟨_, newPart_blob name bs f, ?_⟩
  rw [normPart_blobPart]
  exact valueFromPart_read _ _ bs _ h (normVal_encode bs)

/-- the hypotheses of `C08_up` are satisfiable -/
example : ∃ (bs : List Nat), (∀ b ∈ bs, b < 256) ∧ bs ≠ [] := ⟨[1, 2, 3, 250], by decide⟩

/-- **C08** (deployment): when a driver publishes a byte string as the value of an enabled BLOB element, then -
under ANY interleaving of the peers' connections - every peer that sees the deployment as it is holds, if BLOBs
reach it, identical bytes and format, and otherwise exactly what it held before (`c08Holds`) -/
theorem C08_publish (w w' : World) (di : Nat) (d : Device) (a : Addr) (bs : List Nat) (f : Str)
    (hok : Indi.Sys.worldOk08 w.devs = true) (hs : allSynced w = true) (hd : w.devs[di]? = some d)
    (ha : blobElemAt d a = true)      -- EXTRA HYPOTHESIS (see above)
    (hb : ∀ b ∈ bs, b < 256)
    (hn : nextOk Generated.registry w (.driver di (.assign a (.blob bs (some f)))) w' = true) :
    ∀ pp ∈ w.peers.zip w'.peers, ∀ d', w'.devs[di]? = some d' →
      c08Holds pp.1.blobs d' a.g a.v a.e pp.1.mirror pp.2.mirror = true := by
  unfold blobElemAt at ha
  split at ha
  · rename_i g v hv
    simp only [Bool.and_eq_true, beq_iff_eq, Option.isSome_iff_exists] at ha
    obtain ⟨hk, e, he⟩ := ha
    exact publish_core w w' di d a bs f hok hs hd hb g v e hv he hk hn
  · cases ha

end Indi.Sys
