/-
  C03 — Serialize-then-parse is the identity on protocol messages (message level).

  `toXml` is the model of `to_xml` (attributes of a message sorted by name, of a part in
  `__dict__` order, `None` attributes omitted, the text value, the children), `fromXml` the
  model of `from_xml` over the class table regenerated from the repository.  The same at the
  character level (ElementTree's writer, expat) is proved in Properties/Wire.lean
  (`fromString_toString`, `toString_fixed_point`); the character-level model is tied to the code
  by the `xml`/`codec` correspondence.

  Proofs: `Indi/Proofs/C03.lean` (generic in the class table; the table itself enters through
  one kernel-checked well-formedness fact, `Indi.C03.regW_generated`).

  `C03_fixed_point` has the hypothesis `noBlankText m` beside validity.  C03 in /verif/properties.jsonl
  excludes leading and trailing whitespace in its quantifier only, not in its statement; without
  the hypothesis the fixed point fails (`C03_fixed_point_counterexample`).
-/
import Indi.Proofs.C03

namespace Indi
open Indi.Spec.MsgValid Indi.Spec.Dev

/-- **C03**: every valid message of every registered kind (including plain `message` notices), with any
combination of optional attributes, any number of children and any text, is read back as a message of the same
kind with the same attributes and the same children in the same order with the same values, up to the
normalisation that surrounding whitespace of text values is trimmed and empty text equals absent text -/
theorem C03_roundtrip (m : Msg) (h : valid Generated.registry m = true) :
    readsBack Generated.registry m = true :=
  C03.readsBack_of_valid C03.regW_generated h

/-- the text value of a wire view is not *blank*: non-empty but consisting of whitespace only
(absent and empty text are fine) -/
def textNotBlank (fields : List (Str × Option Str)) : Bool :=
  match valueOf fields with
  | some t => t.isEmpty || !(pyStrip t).isEmpty
  | none => true

/-- the hypothesis `hblank` of `C03_fixed_point`: neither the message nor any of its children carries blank text -/
def noBlankText (m : Msg) : Bool :=
  textNotBlank m.fields && (m.children.getD []).all fun p => textNotBlank p.fields

/-- serializing the parsed message again and parsing that gives the very same message (so the bytes are
identical from the second serialisation on): parse ∘ serialize is idempotent.

Without `hblank` the statement is false (`C03_fixed_point_counterexample`): blank text `" "` is parsed to the
empty string `""` (`from_xml`: `xml.text.strip()`), an empty string is serialised as no text, and no text is parsed to
`None`; `""` and `None` are different attribute values (they differ in `to_dict`, hence for `==`). -/
theorem C03_fixed_point (m m' : Msg) (h : valid Generated.registry m = true)
    (hblank : noBlankText m = true)   -- extra hypothesis, see above
    (hp : fromXml Generated.registry (toXml m) = .ok m') :
    fromXml Generated.registry (toXml m') = .ok m' := by
  simp only [noBlankText, Bool.and_eq_true, List.all_eq_true] at hblank
  have key : ∀ fs : List (Str × Option Str), textNotBlank fs = true →
      ∀ t, valueOf fs = some t → t ≠ [] → pyStrip t ≠ [] := by
    intro fs hfs t ht hne
    simp only [textNotBlank, ht, Bool.or_eq_true, Bool.not_eq_true'] at hfs
    rcases hfs with h1 | h1
    · cases t with
      | nil => exact absurd rfl hne
      | cons _ _ => cases h1
    · intro e; rw [e] at h1; cases h1
  refine C03.fixed_point C03.regW_generated h (key _ hblank.1) ?_ hp
  intro ps hps p hpm
  rw [hps] at hblank
  exact key _ (hblank.2 p hpm)

/-- `C03_fixed_point` without `hblank` does not hold: a `newTextVector` whose `oneText` child has the text `" "`
is valid, is read back with the child's value `""`, and that message is read back with the child's value `None` -/
theorem C03_fixed_point_counterexample :
    ∃ m m' : Msg, valid Generated.registry m = true ∧
      fromXml Generated.registry (toXml m) = .ok m' ∧
      fromXml Generated.registry (toXml m') ≠ .ok m' := by
  let child (v : Str) : Part := { tag := s "oneText", fields := [(s "name", some (s "n")), (s "value", some v)] }
  let msg (v : Str) : Msg :=
    { tag := s "newTextVector",
      fields := [(s "device", some (s "d")), (s "name", some (s "p")), (s "timestamp", none)],
      children := some [child v] }
  have h1 : valid Generated.registry (msg (s " ")) = true := by decide +kernel
  have h2 : C03.canon (msg (s " ")) = msg [] := by decide +kernel
  have h3 : valid Generated.registry (msg []) = true := by decide +kernel
  have h4 : C03.canon (msg []) ≠ msg [] := by decide +kernel
  refine ⟨msg (s " "), msg [], h1, ?_, ?_⟩
  · rw [C03.msg_canon C03.regW_generated h1, h2]
  · rw [C03.msg_canon C03.regW_generated h3]
    intro e
    exact h4 (Except.ok.inj e)

/-- what is read back is itself valid -/
theorem C03_parsed_valid (x : Elem) (m : Msg) (hp : fromXml Generated.registry x = .ok m) :
    valid Generated.registry m = true :=
  C03.msg_parsed_valid C03.regW_generated hp

end Indi
