/-
  The decision expressions regenerated from the repository's source on every run (Generated/Decisions.lean, translated by
  tools/extract_decisions.py) agree with the decisions the hand-written models make.  Each generated definition is
  `some f` (the translated Python expression) or `none` (the translator could not follow a restructured source: the
  statements then hold vacuously and the site is tied by the correspondence alone).  One file per area under
  Properties/Dec/, imported only by the audits of the properties that rest on that area (and Dec/Wait.lean by
  Properties/C17b.lean), so that a changed expression breaks the proof side of exactly those properties; this file only
  collects them and uses none.
  Every agreement proof there reads `unfold X? at h; cases h; all_goals …`: `cases h` puts the translated expression in
  the place of `f`, or closes the goal when the site is `none`, which is why the last step stands under `all_goals`.
-/
import Indi.Properties.Dec.Router
import Indi.Properties.Dec.Buffer
import Indi.Properties.Dec.Callback
import Indi.Properties.Dec.Switch
import Indi.Properties.Dec.Vector
import Indi.Properties.Dec.Wait
import Indi.Properties.Dec.Driver

namespace Indi.Decisions
open Indi

/-- how many of the twenty-three sites the translator followed on this tree -/
def translatedSites : Nat :=
  [Generated.routerDeliver?.isSome, Generated.routerIsBlob?.isSome, Generated.driverAccepts?.isSome,
   Generated.bufLoopGuard?.isSome, Generated.bufCleanupDue?.isSome, Generated.callbackAccepts?.isSome,
   Generated.routerToDevice?.isSome, Generated.routerToClient?.isSome, Generated.bufSkip?.isSome,
   Generated.switchTurnsOn?.isSome, Generated.switchClearsOthers?.isSome, Generated.switchKeepsLast?.isSome,
   Generated.switchIsOtherOn?.isSome, Generated.switchNoOtherOn?.isSome, Generated.vectorEnabled?.isSome,
   Generated.waitRelease?.isSome, Generated.waitPollGuard?.isSome, Generated.waitTimeoutGuard?.isSome,
   Generated.waitTimeoutArmed?.isSome, Generated.setValueDefault?.isSome, Generated.toSetSilent?.isSome,
   Generated.toDefDeletes?.isSome, Generated.driverGetAll?.isSome].count true

end Indi.Decisions
