/-
  C09 — Switch properties always satisfy their rule.

  `C09_at_most_one` and `C09_exactly_one` are stated over `run rule vals ops`, for any list of operations and any
  initial configuration that meets the bound; they cover every published snapshot, because each snapshot is the
  post-state of one elementary assignment.  `C09_any_of_many` and `C09_on_stays_on` are about one assignment.
  Model: Model/Switch.lean (`assignAt` is `SwitchVector.apply_rule` followed by the store).  The lemmas are in this
  file: the number of On switches after `List.set` (`countOn_set`), and `run_inv`: what every elementary assignment
  preserves holds of every snapshot and every state.
-/
import Indi.Model.Switch

namespace Indi.Switch

theorem countOn_append (a b : List Bool) : countOn (a ++ b) = countOn a + countOn b := by
  simp [countOn, List.filter_append]

theorem countOn_cons (x : Bool) (l : List Bool) : countOn (x :: l) = (if x then 1 else 0) + countOn l := by
  cases x <;> simp [countOn, Nat.add_comm]

theorem countOn_all_false (l : List Bool) : countOn (l.map fun _ => false) = 0 := by
  induction l with
  | nil => rfl
  | cons x xs ih => simp [countOn] at ih ⊢

theorem any_id_eq_false_iff (l : List Bool) : l.any id = false ↔ countOn l = 0 := by
  induction l with
  | nil => simp [countOn]
  | cons x xs ih =>
    cases x <;> simp [countOn_cons, ih]

theorem countOn_set (vals : List Bool) (i : Nat) (b : Bool) (h : i < vals.length) :
    countOn (vals.set i b) = countOn (vals.take i) + (if b then 1 else 0) + countOn (vals.drop (i + 1)) := by
  rw [List.set_eq_take_append_cons_drop, if_pos h, countOn_append, countOn_cons]; omega

theorem countOn_split (vals : List Bool) (i : Nat) (h : i < vals.length) :
    countOn vals = countOn (vals.take i) + (if vals[i] then 1 else 0) + countOn (vals.drop (i + 1)) := by
  rw [← countOn_set vals i vals[i] h, List.set_getElem_self]

theorem otherOn_false_iff (vals : List Bool) (i : Nat) :
    otherOn vals i = false ↔ countOn (vals.take i) = 0 ∧ countOn (vals.drop (i + 1)) = 0 := by
  simp only [otherOn, Bool.or_eq_false_iff, any_id_eq_false_iff]

theorem countOn_reset_set (vals : List Bool) (i : Nat) (h : i < vals.length) :
    countOn ((vals.map fun _ => false).set i true) = 1 := by
  rw [countOn_set _ i true (by simpa using h), ← List.map_take, ← List.map_drop, countOn_all_false, countOn_all_false]
  rfl

/-- OneOfMany even *establishes* "exactly one" from "at most one", as soon as any known switch is assigned -/
theorem assignAt_oneOfMany_establishes (vals : List Bool) (i : Nat) (v : Bool) (hi : i < vals.length)
    (h : countOn vals ≤ 1) : countOn (assignAt .oneOfMany vals i v) = 1 := by
  unfold assignAt
  rw [if_pos hi]
  have hs := countOn_split vals i hi
  cases v with
  | true => simp [countOn_reset_set vals i hi]
  | false =>
    simp only [Bool.false_eq_true, if_false]
    split
    · rename_i ho
      rw [countOn_set vals i false hi]; simp only [Bool.false_eq_true, if_false]
      -- another switch is On, so it is the one On switch and switch i is Off already
      have hne : ¬ (countOn (vals.take i) = 0 ∧ countOn (vals.drop (i + 1)) = 0) := by
        intro hc
        have := (otherOn_false_iff vals i).mpr hc
        rw [this] at ho; cases ho
      split at hs <;> omega
    · rename_i ho
      have := (otherOn_false_iff vals i).mp (by simpa using ho)
      rw [countOn_set vals i true hi]; simp [this.1, this.2]

/-- **exactly one** is preserved under OneOfMany -/
theorem assignAt_eq_one (vals : List Bool) (i : Nat) (v : Bool) (h : countOn vals = 1) :
    countOn (assignAt .oneOfMany vals i v) = 1 := by
  by_cases hi : i < vals.length
  · exact assignAt_oneOfMany_establishes vals i v hi (by omega)
  · simpa [assignAt, hi] using h

/-- **at most one** is preserved: under OneOfMany and AtMostOne an elementary assignment to a vector with at most
one switch On leaves at most one On (turning a switch Off where two are On leaves two On) -/
theorem assignAt_le_one (rule : Rule) (hr : rule ≠ .anyOfMany) (vals : List Bool) (i : Nat) (v : Bool)
    (h : countOn vals ≤ 1) : countOn (assignAt rule vals i v) ≤ 1 := by
  by_cases hi : i < vals.length
  · cases rule with
    | anyOfMany => exact absurd rfl hr
    | oneOfMany => exact Nat.le_of_eq (assignAt_oneOfMany_establishes vals i v hi h)
    | atMostOne =>
      have hs := countOn_split vals i hi
      cases v with
      | true => simp [assignAt, hi, countOn_reset_set vals i hi]
      | false =>
        simp only [assignAt, hi, if_true, Bool.false_eq_true, if_false]
        rw [countOn_set vals i false hi]; simp only [Bool.false_eq_true, if_false]; omega
  · simpa [assignAt, hi] using h

/-- **AnyOfMany**: an assignment changes only the switch it names -/
theorem assignAt_anyOfMany_frame (vals : List Bool) (i : Nat) (v : Bool) (j : Nat) (hj : j ≠ i) :
    (assignAt .anyOfMany vals i v)[j]? = vals[j]? := by
  unfold assignAt
  split
  · cases v <;> simp [Ne.symm hj]
  · rfl

/-- **turning a switch On leaves it On**, under every rule -/
theorem assignAt_on_stays_on (rule : Rule) (vals : List Bool) (i : Nat) (hi : i < vals.length) :
    (assignAt rule vals i true)[i]? = some true := by
  unfold assignAt
  rw [if_pos hi]
  cases rule <;> simp [hi]

theorem assignAt_length (rule : Rule) (vals : List Bool) (i : Nat) (v : Bool) :
    (assignAt rule vals i v).length = vals.length := by
  unfold assignAt
  split
  · cases v <;> cases rule <;> simp <;> split <;> simp
  · rfl

theorem assignMany_inv (rule : Rule) (P : List Bool → Prop)
    (hP : ∀ vals i v, P vals → P (assignAt rule vals i v)) :
    ∀ (ch : List (Nat × Bool)) (vals : List Bool), P vals →
      (∀ s ∈ (assignMany rule vals ch).1, P s) ∧ P (assignMany rule vals ch).2 := by
  intro ch
  induction ch with
  | nil => intro vals h; simp [assignMany, h]
  | cons x xs ih =>
    intro vals h
    obtain ⟨i, v⟩ := x
    simp only [assignMany]
    split
    · have h' := hP vals i v h
      exact (ih _ h').imp_left fun h1 => List.forall_mem_cons.2 ⟨h', h1⟩
    · exact ih vals h

theorem selectLoop_inv (rule : Rule) (names : List Nat) (P : List Bool → Prop)
    (hP : ∀ vals i v, P vals → P (assignAt rule vals i v)) :
    ∀ (fuel j : Nat) (vals : List Bool), P vals →
      (∀ s ∈ (selectLoop rule names fuel j vals).1, P s) ∧ P (selectLoop rule names fuel j vals).2 := by
  intro fuel
  induction fuel with
  | zero => intro j vals h; simp [selectLoop, h]
  | succ n ih =>
    intro j vals h
    simp only [selectLoop]
    split
    · have h' := hP vals j (names.contains j) h
      exact (ih (j + 1) _ h').imp_left fun h1 => List.forall_mem_cons.2 ⟨h', h1⟩
    · exact ih (j + 1) vals h

theorem step_inv (rule : Rule) (P : List Bool → Prop)
    (hP : ∀ vals i v, P vals → P (assignAt rule vals i v)) (vals : List Bool) (op : Op) (h : P vals) :
    (∀ s ∈ (step rule vals op).1, P s) ∧ P (step rule vals op).2 := by
  cases op with
  | assign i v => exact assignMany_inv rule P hP _ vals h
  | write ch => exact assignMany_inv rule P hP ch vals h
  | select names =>
    simp only [step]
    split
    · exact selectLoop_inv rule names P hP _ _ vals h
    · simp [h]

theorem run_inv (rule : Rule) (P : List Bool → Prop)
    (hP : ∀ vals i v, P vals → P (assignAt rule vals i v)) :
    ∀ (ops : List Op) (vals : List Bool), P vals →
      ∀ r ∈ run rule vals ops, (∀ s ∈ r.1, P s) ∧ P r.2 := by
  intro ops
  induction ops with
  | nil => intro vals _ r hr; cases hr
  | cons op rest ih =>
    intro vals h r hr
    simp only [run] at hr
    have hs := step_inv rule P hP vals op h
    rcases List.mem_cons.mp hr with rfl | hr
    · exact hs
    · exact ih _ hs.2 r hr

/-- **C09, AtMostOne / OneOfMany**: starting from any configuration with at most one switch On,
after ANY sequence of client writes, driver assignments and selections, every published
update and every state has at most one switch On -/
theorem C09_at_most_one (rule : Rule) (hr : rule ≠ .anyOfMany) (ops : List Op) (vals : List Bool)
    (h : countOn vals ≤ 1) : ∀ r ∈ run rule vals ops, (∀ s ∈ r.1, countOn s ≤ 1) ∧ countOn r.2 ≤ 1 :=
  run_inv rule (fun v => countOn v ≤ 1) (fun vals i v hv => assignAt_le_one rule hr vals i v hv) ops vals h

/-- **C09, OneOfMany**: a property that has one switch On always has exactly one On, in every
published update and every state -/
theorem C09_exactly_one (ops : List Op) (vals : List Bool) (h : countOn vals = 1) :
    ∀ r ∈ run .oneOfMany vals ops, (∀ s ∈ r.1, countOn s = 1) ∧ countOn r.2 = 1 :=
  run_inv .oneOfMany (fun v => countOn v = 1) (fun vals i v hv => assignAt_eq_one vals i v hv) ops vals h

/-- **C09, AnyOfMany**: a single assignment (driver side, or a client write naming one switch)
changes only the switch it names, in the published update and in the state -/
theorem C09_any_of_many (vals : List Bool) (i : Nat) (v : Bool) (j : Nat) (hj : j ≠ i) :
    (∀ s ∈ (step .anyOfMany vals (.assign i v)).1, s[j]? = vals[j]?) ∧
      (step .anyOfMany vals (.assign i v)).2[j]? = vals[j]? := by
  simp only [step, assignMany]
  split
  · simp [assignAt_anyOfMany_frame vals i v j hj]
  · simp

/-- **C09**: turning a switch On leaves that switch On (in the published update and the state) -/
theorem C09_on_stays_on (rule : Rule) (vals : List Bool) (i : Nat) (hi : i < vals.length) :
    (step rule vals (.assign i true)).1 = [assignAt rule vals i true] ∧
      (step rule vals (.assign i true)).2[i]? = some true := by
  simp [step, assignMany, hi, assignAt_on_stays_on rule vals i hi]

example : countOn [false, true, false] = 1 := by decide
example : (run .oneOfMany [false, true, false] [.assign 1 false, .write [(0, true), (2, true)], .select [1]]).map (·.2)
    = [[false, true, false], [false, false, true], [false, true, false]] := by decide

end Indi.Switch
