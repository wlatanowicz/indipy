/-
  C10 — Number rendering and parsing are mutually inverse and follow the INDI conventions.

  `render`/`numToStr` and `strToNum` are the models of `num_to_str` / `str_to_num`
  (Model/Num.lean), `numberOk` the model of `checks.number` (Model/Msg.lean),
  `Spec.Num.denote` an independent reader of number text under the INDI
  conventions (Spec/Num.lean).  Floating point enters only through `Arith.fl`;
  the theorems hold for every arithmetic that is as accurate as binary64.
-/
import Indi.Proofs.Num

namespace Indi.Num
open Indi Indi.Spec.Num

/-- the arithmetic rounds like binary64: relative error at most 2⁻⁵³ -/
def Arith.Accurate (A : Arith) : Prop := ∀ q : Rat, absR (A.fl q - q) * 2 ^ 53 ≤ absR q

/-- exact arithmetic is accurate (non-vacuity of the hypothesis) -/
theorem exact_accurate : Arith.Accurate { fl := fun q => q } := by
  intro q
  show absR (q - q) * 2 ^ 53 ≤ absR q
  rw [sub_self, absR_of_nonneg (le_refl 0), zero_mul]
  exact absR_nonneg q

/-- (a) whatever `num_to_str` renders, for every format of the family and EVERY value, is accepted by the validator -/
theorem C10_render_valid (A : Arith) (fmt : Fmt) (x : Rat) (text : Str)
    (h : render A fmt x = .ok text) : numberOk text = true :=
  numberOk_of_core (render_denote h).1

/-- (b) sexagesimal: the text denotes the value to within the format's resolution (one unit of the last
place; in fact half of it, for EVERY value: the fields are computed exactly), the sign applying to the whole magnitude -/
theorem C10_sexa_denotes (A : Arith) (frac base : Nat) (hb : sexaBase frac = some base)
    (x : Rat) (text : Str) (h : render A (.sexa frac) x = .ok text) :
    ∃ v, denote text = some v ∧ absR (v - x) * (2 * base) ≤ 1 :=
  ⟨_, (render_sexa_text hb h).2.1, sexa_exact hb x⟩

/-- (b) `%[flags][width][.prec]f`: within half a unit of the last decimal -/
theorem C10_f_denotes (A : Arith) (fl : Flags) (width prec : Nat) (x : Rat) (text : Str)
    (h : render A (.f fl width prec) x = .ok text) :
    ∃ v, denote text = some v ∧ absR (v - x) * (2 * 10 ^ prec) ≤ 1 :=
  ⟨_, (render_f_text h).2, f_numeric prec x⟩

/-- (b) `%[flags][width][.prec]d`: truncation, within one unit -/
theorem C10_d_denotes (A : Arith) (fl : Flags) (width : Nat) (prec : Option Nat) (x : Rat) (text : Str)
    (h : render A (.d fl width prec) x = .ok text) :
    ∃ v, denote text = some v ∧ absR (v - x) < 1 :=
  ⟨_, (render_d_text h).2, d_numeric x⟩

/-- (d) every number text of the grammar (`numberCore`: what `checks.number` accepts, leaving aside the one trailing
newline that `$` tolerates) is parsed, to exactly the integer it denotes, or to the correctly rounded value it denotes -/
theorem C10_parse_denotes (A : Arith) (text : Str) (h : numberCore text = true) :
    ∃ nv, strToNumCore A text = .ok nv ∧
      match nv with
      | .int v => denote text = some (v : Rat)
      | .float v => ∃ q, denote text = some q ∧ v = A.fl q := by
  obtain ⟨sg, body, i, m, hsg, rfl, hs⟩ := Shape.of_numberCore h
  obtain ⟨_, hden, hstr⟩ := shaped hsg hs
  refine ⟨_, hstr A, ?_⟩
  cases i with
  | some n =>
    rw [hden, hs.int_eq]
    by_cases hm : sg = ['-'] <;> simp [shapeResult, hm]
  | none => exact ⟨_, hden, by simp⟩

/-- (c) round trip: parsing what was rendered gives the value back within the resolution -/
theorem C10_sexa_roundtrip (A : Arith) (hA : A.Accurate) (frac base : Nat) (hb : sexaBase frac = some base)
    (x : Rat) (hx : absR x ≤ 10 ^ 9) (text : Str) (h : render A (.sexa frac) x = .ok text) :
    ∃ v, strToNum A text = .ok (.float v) ∧ absR (v - x) * base ≤ 1 :=
  ⟨_, (render_sexa_text hb h).2.2, sexa_numeric hA hb hx⟩

/-- instance obligation, re-decided on every run: the table the code uses (regenerated) is the protocol's table
the oracle pins -/
theorem sexa_table_pinned : ∀ frac, frac < 64 → sexaBase frac = Spec.Num.specSexaBase frac := by decide +kernel

end Indi.Num
