/-
  C04 — Client messages reach exactly the addressed devices.

  `Rtr.step/process` is the model of `Router.process_message`
  (indi/routing/router.py); histories are arbitrary lists of register-device /
  register-client / unregister-client / send operations (enableBLOB is a send).
  Lemmas: Proofs/RtrDeliver.lean (the normal form `process_snd` of the fan-out on an
  arbitrary state, `mem_process_dev`, `mem_process_cli`), Proofs/Rtr.lean.
-/
import Indi.Proofs.RtrDeliver
import Indi.Generated.Registry

namespace Indi.Rtr
open Indi.Spec.Rtr Indi

/-- **C04 (devices)**: after any history `h`, a client-originated message is handed to
exactly the registered devices (registration order) that are not its sender and accept its
device name; a message that is not client-originated reaches no device -/
theorem C04_devices (h : List Op) (m : RMsg) (sd : Sender) (i : Nat) :
    Target.dev i ∈ (step (run h) (.send m sd)).2 ↔
      (m.fromClient = true ∧ ∃ d ∈ devicesOf h, d.id = i ∧ Sender.dev i ≠ sd ∧ accepts d m.device = true) := by
  rw [← devices_eq]
  exact mem_process_dev (run h) m sd i

/-- the device part of the delivery list, in order: registration order, each device once
per registration -/
theorem C04_device_order (h : List Op) (m : RMsg) (sd : Sender) (hfc : m.fromClient = true)
    (hnd : m.fromDevice = false) :
    (step (run h) (.send m sd)).2 = devicesFor (devicesOf h) m sd := by
  rw [process_deliveries, devices_eq]
  simp [expected, hfc, hnd]

/-- exactly once: under the API precondition (no endpoint registered twice) no target
appears twice in the delivery list -/
theorem deliveries_nodup (h : List Op) (hwf : WellFormed h) (m : RMsg) (sd : Sender) :
    (step (run h) (.send m sd)).2.Nodup := by
  have hc := (clients_registered h.reverse hwf).1
  have hd := device_ids_nodup h.reverse hwf
  rw [← run_eq_runRev] at hc
  rw [List.reverse_reverse, ← devices_eq] at hd
  show (process (run h) m sd).2.Nodup
  rw [process_snd, List.nodup_append]
  refine ⟨?_, ?_, fun a ha b hb e => ?_⟩
  · split
    · exact List.pairwise_map.2
        (((List.pairwise_map.1 hd).sublist List.filter_sublist).imp fun hne e => hne (Target.dev.inj e))
    · exact List.nodup_nil
  · split
    · exact List.pairwise_map.2 ((hc.sublist List.filter_sublist).imp fun hne e => hne (Target.cli.inj e))
    · exact List.nodup_nil
  · -- a device target is not a client target
    subst e
    obtain ⟨-, d, -, rfl⟩ := (List.mem_ite_nil_right.1 ha).imp_right List.mem_map.1
    obtain ⟨-, c, -, e⟩ := (List.mem_ite_nil_right.1 hb).imp_right List.mem_map.1
    cases e

/-- never handed back to its sender -/
theorem C04_not_to_sender (h : List Op) (m : RMsg) (i : Nat) :
    Target.dev i ∉ (step (run h) (.send m (.dev i))).2 := by
  intro hm
  obtain ⟨_, _, _, _, hne, _⟩ := (mem_process_dev (run h) m (.dev i) i).1 hm
  exact hne rfl

/-- **C04 (no relay of device-bound messages)**: another client receives a
client-originated message only if its class is also device-originated ... -/
theorem C04_clients_only_if_fromDevice (h : List Op) (m : RMsg) (sd : Sender) (c : Nat)
    (hm : Target.cli c ∈ (step (run h) (.send m sd)).2) : m.fromDevice = true :=
  ((mem_process_cli (run h) m sd c).1 hm).1

/-- ... and in the repository's class table the only client-originated class that is also
device-originated is getProperties (so new*Vector and enableBLOB are never forwarded to
other clients, and getProperties is relayed for snooping) -/
theorem C04_only_getProperties_is_relayed :
    ∀ c ∈ Generated.messageClasses, c.fromClient = true → c.fromDevice = true → c.tag = s "getProperties" := by
  decide +kernel

theorem C04_getProperties_is_relayed :
    (Generated.messageClasses.any fun c => c.tag = s "getProperties" && c.fromClient && c.fromDevice) = true := by
  decide +kernel

theorem C04_device_bound_kinds :
    ∀ t ∈ [s "newTextVector", s "newNumberVector", s "newSwitchVector", s "newBLOBVector", s "enableBLOB"],
      ∃ c, findClass t Generated.messageClasses = some c ∧ c.fromClient = true ∧ c.fromDevice = false := by
  decide +kernel

/-! non-vacuity: a concrete well-formed history with two devices, a catch-all and two clients -/

def exHist : List Op :=
  [.regDev ⟨0, some (s "A")⟩, .regDev ⟨1, some (s "B")⟩, .regDev ⟨2, none⟩, .regCli 10, .regCli 11]

def exNew : RMsg := { fromClient := true, fromDevice := false, isEnableBlob := false, isBlob := false,
                      device := some (s "A"), value := .never }

example : WellFormed exHist := by show wellFormedRev _ = true; decide +kernel
example : (step (run exHist) (.send exNew (.cli 10))).2 = [.dev 0, .dev 2] := by decide +kernel

end Indi.Rtr
