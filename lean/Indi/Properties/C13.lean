/-
  C13 — The parser accepts only protocol-conformant messages.

  `fromXml` is the model of `IndiMessage.from_xml` (class lookup, children via
  `IndiMessagePart.from_xml`, keyword construction with the guards of the class
  table); `Spec.conformant` is written by hand from the INDI vocabulary.  The
  statement quantifies over *all* XML elements, so there is nothing to
  enumerate: whatever reaches a guarded field must be in the accepted set the
  translator probed, and `generated_regConf` (re-decided by the kernel on every
  run over the regenerated table) says that set is inside the protocol
  vocabulary.  Lemmas: Proofs/Conformance.lean (`fromXml_conformant`, for every
  table with `regConf`), on `construct_inv` of Proofs/Construct.lean.
-/
import Indi.Proofs.Conformance
import Indi.Generated.Registry

namespace Indi

/-- instance obligation: the guards of the class table regenerated from the
repository imply the protocol requirements -/
theorem generated_regConf : regConf Generated.registry = true := by decide +kernel

/-- **C13**: for any XML element, parsing either fails or yields a conformant message -/
theorem C13 (x : Elem) (m : Msg) (h : fromXml Generated.registry x = .ok m) :
    Spec.conformant m = true :=
  fromXml_conformant generated_regConf x m h

/-! non-vacuity: a well-formed element is accepted (the hypothesis of C13 is
satisfiable), and hostile ones are rejected -/

def exElem : Elem :=
  { tag := s "defSwitchVector",
    attrs := [(s "device", s "D"), (s "name", s "P"), (s "state", s "Ok"), (s "perm", s "rw"), (s "rule", s "OneOfMany")],
    text := s "\n  ",
    children := [{ tag := s "defSwitch", attrs := [(s "name", s "a")], text := s " On " }] }

def errIs (r : Except Err Msg) (e : Err) : Bool :=
  match r with
  | .error e' => e' == e
  | .ok _ => false

example : (fromXml Generated.registry exElem).isOk = true := by decide +kernel
example : (match fromXml Generated.registry exElem with | .ok m => Spec.conformant m | _ => false) = true := by
  decide +kernel
example : errIs (fromXml Generated.registry
    { exElem with attrs := [(s "device", s "D"), (s "name", s "P"), (s "state", s "indi.message.const"),
                            (s "perm", s "rw"), (s "rule", s "OneOfMany")] }) .valueError = true := by
  decide +kernel
example : errIs (fromXml Generated.registry
    { exElem with children := [{ tag := s "defSwitch", attrs := [(s "name", s "a")], text := [] }] }) .valueError = true := by
  decide +kernel

end Indi
