/-
  Decision expressions regenerated from the repository's source on every run (Generated/Decisions.lean, translated by
  tools/extract_decisions.py): `Vector.enabled`: a property counts as enabled only while it and its group are switched on.
  What `some f` / `none` stand for, and why every agreement proof ends in `all_goals`: Properties/Decisions.lean.
-/
import Indi.Generated.Decisions

namespace Indi.Decisions
open Indi

theorem vectorEnabled_agrees (f : Bool → Bool → Bool) (h : Generated.vectorEnabled? = some f) (own grp : Bool) :
    f own grp = (own && grp) := by
  unfold Generated.vectorEnabled? at h
  cases h
  all_goals (cases own <;> cases grp <;> rfl)

end Indi.Decisions
