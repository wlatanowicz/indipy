/-
  Decision expressions regenerated from the repository's source on every run (Generated/Decisions.lean, translated by
  tools/extract_decisions.py): the filter of `_CallbackConfig.accepts_event`.
  What `some f` / `none` stand for, and why every agreement proof ends in `all_goals`: Properties/Decisions.lean.
-/
import Indi.Generated.Decisions
import Indi.Model.Cli

namespace Indi.Decisions
open Indi

/-- `_CallbackConfig.accepts_event` is the model's `Cli.accepts` -/
theorem callbackAccepts_agrees
    (f : Option Str → Option Str → Option Str → Option Str → Option Str → Option Str → Bool → Bool)
    (h : Generated.callbackAccepts? = some f) (cb : Cli.Callback) (ev : Cli.Event) :
    f cb.device cb.vector cb.element (Cli.evDev ev) (Cli.evVec ev) (Cli.evElem ev) (Cli.evIs cb.evType ev) = Cli.accepts cb ev := by
  unfold Generated.callbackAccepts? at h
  cases h
  all_goals (simp only [Cli.accepts]; cases cb.device <;> cases cb.vector <;> cases cb.element <;> simp [Option.isNone])

end Indi.Decisions
