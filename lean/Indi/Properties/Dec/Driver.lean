/-
  Decision expressions regenerated from the repository's source on every run (Generated/Decisions.lean, translated by
  tools/extract_decisions.py): the driver's publication guards and the default step of a write — `Element.set_value`
  (the default happens unless a plain Write handler vetoed), `Vector.to_set_message` (no update while the property is not
  enabled), `Vector.to_def_message` (a delProperty instead of a definition while it is not enabled), and the "all properties"
  test of `Driver.message_from_client`; each tied to what the driver model does.
  What `some f` / `none` stand for, and why every agreement proof ends in `all_goals`: Properties/Decisions.lean.
-/
import Indi.Generated.Decisions
import Indi.Model.Dev

namespace Indi.Decisions
open Indi Indi.Dev

theorem setValueDefault_agrees (f : Bool → Bool) (h : Generated.setValueDefault? = some f) (vetoed : Bool) :
    f vetoed = !vetoed := by
  unfold Generated.setValueDefault? at h
  cases h
  all_goals (cases vetoed <;> rfl)

theorem toSetSilent_agrees (f : Bool → Bool) (h : Generated.toSetSilent? = some f) (enabled : Bool) :
    f enabled = !enabled := by
  unfold Generated.toSetSilent? at h
  cases h
  all_goals (cases enabled <;> rfl)

theorem toDefDeletes_agrees (f : Bool → Bool) (h : Generated.toDefDeletes? = some f) (enabled : Bool) :
    f enabled = !enabled := by
  unfold Generated.toDefDeletes? at h
  cases h
  all_goals (cases enabled <;> rfl)

theorem driverGetAll_agrees (f : Option Str → Bool) (h : Generated.driverGetAll? = some f) (name : Option Str) :
    f name = (match name with | none => true | some n => n.isEmpty) := by
  unfold Generated.driverGetAll? at h
  cases h
  all_goals (cases name <;> simp)

/-- the model publishes no update exactly when the source's guard says so -/
theorem setMsg_silent_from_source (f : Bool → Bool) (h : Generated.toSetSilent? = some f) (dev : Str) (g : Group) (v : Vec)
    (hs : f (vecEnabled g v) = true) : setMsg dev g v = .ok none := by
  rw [toSetSilent_agrees f h] at hs
  unfold setMsg
  simp [hs]

/-- the model answers with a delProperty exactly when the source's guard says so -/
theorem defMsg_deletes_from_source (f : Bool → Bool) (h : Generated.toDefDeletes? = some f) (dev : Str) (g : Group) (v : Vec)
    (hs : f (vecEnabled g v) = true) : ∃ m, defMsg dev g v = .ok m ∧ m.tag = s "delProperty" := by
  rw [toDefDeletes_agrees f h] at hs
  unfold defMsg
  simp [hs]

end Indi.Decisions
