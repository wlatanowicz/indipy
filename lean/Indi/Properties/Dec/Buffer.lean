/-
  Decision expressions regenerated from the repository's source on every run (Generated/Decisions.lean, translated by
  tools/extract_decisions.py): the three decisions of `Buffer.process` / `_find_message_in_buffer`.
  What `some f` / `none` stand for, and why every agreement proof ends in `all_goals`: Properties/Decisions.lean.
-/
import Indi.Generated.Decisions

namespace Indi.Decisions
open Indi

/-- the loop guard of `_find_message_in_buffer`: at least one more character after position `pos`
(the model's `scan` stops when fewer than two characters are left: `cs.length < 2`) -/
theorem bufLoopGuard_agrees (f : Nat → Nat → Bool) (h : Generated.bufLoopGuard? = some f) (pos len : Nat) :
    f pos len = decide (pos + 1 < len) := by
  unfold Generated.bufLoopGuard? at h
  cases h
  all_goals (simp only [decide_eq_decide]; omega)

/-- junk recovery is due exactly when a threshold is set and more than that is retained (the model's `processLoop`) -/
theorem bufCleanupDue_agrees (f : Option Nat → Nat → Bool) (h : Generated.bufCleanupDue? = some f) (T : Option Nat) (n : Nat) :
    f T n = (match T with | some t => decide (n > t) | none => false) := by
  unfold Generated.bufCleanupDue? at h
  cases h
  all_goals (cases T <;> simp)

/-- `Buffer.process`: a complete element that is not a message is skipped -/
theorem bufSkip_agrees (f : Bool → Option Nat → Bool) (h : Generated.bufSkip? = some f) (found : Bool) (e : Option Nat) :
    f found e = (!found && (match e with | some v => decide (v ≠ 0) | none => false)) := by
  unfold Generated.bufSkip? at h
  cases h
  all_goals (cases found <;> cases e <;> rfl)

end Indi.Decisions
