/-
  Decision expressions regenerated from the repository's source on every run (Generated/Decisions.lean, translated by
  tools/extract_decisions.py): the conditions of `Router.process_message` and `Driver.accepts`; the router model equals the source's loop skeleton with those conditions plugged in.
  What `some f` / `none` stand for, and why every agreement proof ends in `all_goals`: Properties/Decisions.lean.
-/
import Indi.Generated.Decisions
import Indi.Generated.Registry
import Indi.Model.Rtr

namespace Indi.Decisions
open Indi

def policyStr : Rtr.Policy → Str
  | .never => s "Never"
  | .also => s "Also"
  | .only => s "Only"

/-- the delivery condition of `Router.process_message` is the model's `deliverCond`, for both kinds of message and all
three policies -/
theorem routerDeliver_agrees (f : Bool → Str → Bool) (h : Generated.routerDeliver? = some f) (b : Bool) (p : Rtr.Policy) :
    f b (policyStr p) = Rtr.deliverCond b p := by
  unfold Generated.routerDeliver? at h
  cases h
  all_goals (cases b <;> cases p <;> decide +kernel)

/-- `is_blob` is true exactly for `setBLOBVector` among the registered message classes (what `Rtr.rmsgOf` assumes) -/
theorem routerIsBlob_agrees (f : Str → Bool) (h : Generated.routerIsBlob? = some f) :
    ∀ c ∈ Generated.messageClasses, f c.tag = (c.tag == s "setBLOBVector") := by
  unfold Generated.routerIsBlob? at h
  cases h
  all_goals decide +kernel

/-- `Driver.accepts` is the model's `accepts` for a named device -/
theorem driverAccepts_agrees (f : Option Str → Str → Bool) (h : Generated.driverAccepts? = some f)
    (i : Nat) (name : Str) (device : Option Str) :
    f device name = Rtr.accepts ⟨i, some name⟩ device := by
  unfold Generated.driverAccepts? at h
  cases h
  all_goals (cases device <;> simp [Rtr.accepts])

/-- the loop skeleton of `Router.process_message` with the three conditions of the source plugged in -/
def processFromSource (toDev : Bool → Bool → Bool) (toCli : Bool → Bool) (deliver : Bool → Str → Bool)
    (σ : Rtr.State) (m : Rtr.RMsg) (sender : Rtr.Sender) : Rtr.State × List Rtr.Target :=
  let σ1 := if m.fromClient && m.isEnableBlob then Rtr.processEnableBlob σ m sender else σ
  let devs := if m.fromClient then
      (σ1.devices.filter fun d => toDev (decide (Rtr.Sender.dev d.id = sender)) (Rtr.accepts d m.device)).map fun d => Rtr.Target.dev d.id
    else []
  let clis := if m.fromDevice then
      (σ1.clients.filter fun c => toCli (decide (Rtr.Sender.cli c = sender)) &&
          deliver m.isBlob (policyStr (Rtr.policyLookup σ1 c m.device))).map Rtr.Target.cli
    else []
  (σ1, devs ++ clis)

theorem routerToDevice_agrees (f : Bool → Bool → Bool) (h : Generated.routerToDevice? = some f) (isSender acc : Bool) :
    f isSender acc = (!isSender && acc) := by
  unfold Generated.routerToDevice? at h
  cases h
  all_goals (cases isSender <;> cases acc <;> rfl)

theorem routerToClient_agrees (f : Bool → Bool) (h : Generated.routerToClient? = some f) (isSender : Bool) :
    f isSender = !isSender := by
  unfold Generated.routerToClient? at h
  cases h
  all_goals (cases isSender <;> rfl)

/-- **the router model is the source's skeleton**: with the three conditions as they stand in router.py, the fan-out
computed by the skeleton is the model's `Rtr.process`, for every state, message and sender -/
theorem router_process_from_source (f1 : Bool → Bool → Bool) (f2 : Bool → Bool) (f3 : Bool → Str → Bool)
    (h1 : Generated.routerToDevice? = some f1) (h2 : Generated.routerToClient? = some f2)
    (h3 : Generated.routerDeliver? = some f3) (σ : Rtr.State) (m : Rtr.RMsg) (sender : Rtr.Sender) :
    processFromSource f1 f2 f3 σ m sender = Rtr.process σ m sender := by
  unfold processFromSource Rtr.process
  have e1 : (fun d : Rtr.Dev => f1 (decide (Rtr.Sender.dev d.id = sender)) (Rtr.accepts d m.device)) =
      (fun d : Rtr.Dev => decide (Rtr.Sender.dev d.id ≠ sender) && Rtr.accepts d m.device) := by
    funext d
    rw [routerToDevice_agrees f1 h1]
    by_cases hd : Rtr.Sender.dev d.id = sender <;> simp [hd]
  have e2 : ∀ (σ1 : Rtr.State), (fun c : Nat => f2 (decide (Rtr.Sender.cli c = sender)) &&
        f3 m.isBlob (policyStr (Rtr.policyLookup σ1 c m.device))) =
      (fun c : Nat => decide (Rtr.Sender.cli c ≠ sender) && Rtr.deliverCond m.isBlob (Rtr.policyLookup σ1 c m.device)) := by
    intro σ1; funext c
    rw [routerToClient_agrees f2 h2, routerDeliver_agrees f3 h3]
    by_cases hc : Rtr.Sender.cli c = sender <;> simp [hc]
  simp only [e1, e2]

end Indi.Decisions
