/-
  Decision expressions regenerated from the repository's source on every run (Generated/Decisions.lean, translated by
  tools/extract_decisions.py): the five conditions of `SwitchVector.apply_rule`; the switch model equals the source's skeleton with them plugged in.
  What `some f` / `none` stand for, and why every agreement proof ends in `all_goals`: Properties/Decisions.lean.
-/
import Indi.Generated.Decisions
import Indi.Model.Switch

namespace Indi.Decisions
open Indi

def ruleStr : Switch.Rule → Str
  | .oneOfMany => s "OneOfMany"
  | .atMostOne => s "AtMostOne"
  | .anyOfMany => s "AnyOfMany"

def stateStr (b : Bool) : Str := if b then s "On" else s "Off"

/-- the other elements that are On, as the comprehension / the loop of `apply_rule` selects them -/
def othersOn (isOtherOn : Bool → Str → Bool) (vals : List Bool) (i : Nat) : List (Bool × Nat) :=
  vals.zipIdx.filter fun p => isOtherOn (decide (p.2 ≠ i)) (stateStr p.1)

/-- the skeleton of `Switch.value = v` on element `i` (`check_value` → `apply_rule`, then the store) with the five
conditions of the source plugged in -/
def applyRuleFromSource (turnsOn : Str → Bool) (clears keeps : Str → Bool) (isOtherOn : Bool → Str → Bool) (noOther : Nat → Bool)
    (rule : Switch.Rule) (vals : List Bool) (i : Nat) (v : Bool) : List Bool :=
  if i < vals.length then
    if turnsOn (stateStr v) then
      if clears (ruleStr rule) then
        (vals.zipIdx.map fun p => if isOtherOn (decide (p.2 ≠ i)) (stateStr p.1) then false else p.1).set i true
      else vals.set i true
    else
      if keeps (ruleStr rule) then
        if noOther (othersOn isOtherOn vals i).length then vals.set i true else vals.set i false
      else vals.set i false
  else vals

theorem switchTurnsOn_agrees (f : Str → Bool) (h : Generated.switchTurnsOn? = some f) (v : Bool) : f (stateStr v) = v := by
  unfold Generated.switchTurnsOn? at h
  cases h
  all_goals (cases v <;> decide +kernel)

theorem switchClearsOthers_agrees (f : Str → Bool) (h : Generated.switchClearsOthers? = some f) (r : Switch.Rule) :
    f (ruleStr r) = (r != .anyOfMany) := by
  unfold Generated.switchClearsOthers? at h
  cases h
  all_goals (cases r <;> decide +kernel)

theorem switchKeepsLast_agrees (f : Str → Bool) (h : Generated.switchKeepsLast? = some f) (r : Switch.Rule) :
    f (ruleStr r) = (r == .oneOfMany) := by
  unfold Generated.switchKeepsLast? at h
  cases h
  all_goals (cases r <;> decide +kernel)

theorem switchIsOtherOn_agrees (f : Bool → Str → Bool) (h : Generated.switchIsOtherOn? = some f) (other v : Bool) :
    f other (stateStr v) = (other && v) := by
  unfold Generated.switchIsOtherOn? at h
  cases h
  all_goals (cases other <;> cases v <;> decide +kernel)

/-- that condition is written twice in `apply_rule` (the loop that switches the others Off, the comprehension that counts
them): EVERY place where it is written agrees with the model, on the whole domain -/
theorem switchIsOtherOn_all_agree :
    (Generated.switchIsOtherOnAll.all fun f =>
      [true, false].all fun other => [true, false].all fun v => f other (stateStr v) == (other && v)) = true := by
  decide +kernel

theorem switchNoOtherOn_agrees (f : Nat → Bool) (h : Generated.switchNoOtherOn? = some f) (n : Nat) :
    f n = decide (n = 0) := by
  unfold Generated.switchNoOtherOn? at h
  cases h
  all_goals (simp only [decide_eq_decide]; omega)

theorem clearOthers_set (vals : List Bool) (i : Nat) :
    (vals.zipIdx.map fun p => if (decide (p.2 ≠ i) && p.1) then false else p.1).set i true =
      (vals.map fun _ => false).set i true := by
  apply List.ext_getElem
  · simp
  · intro n h1 h2
    simp only [List.getElem_set, List.getElem_map, List.getElem_zipIdx]
    grind

/-- the comprehension of `apply_rule` counts no element exactly if none before or after `i` is On -/
theorem othersOn_length_zero (vals : List Bool) (i : Nat) :
    decide ((vals.zipIdx.filter fun p => decide (p.2 ≠ i) && p.1).length = 0) = !Switch.otherOn vals i := by
  rw [Bool.eq_iff_iff]
  simp only [decide_eq_true_eq, List.length_eq_zero_iff, List.filter_eq_nil_iff, Switch.otherOn, Bool.not_eq_true',
    Bool.or_eq_false_iff, List.any_eq_false, List.mem_zipIdx_iff_getElem?, List.mem_take_iff_getElem,
    List.mem_drop_iff_getElem, Prod.forall]
  constructor
  · intro H
    constructor <;> rintro x ⟨j, hj, rfl⟩
    · have := H vals[j] j (by simp); grind
    · have := H vals[i + 1 + j] (i + 1 + j) (by simp); grind
  · rintro ⟨H1, H2⟩ a j hj hc
    obtain ⟨hlt, rfl⟩ := List.getElem?_eq_some_iff.1 hj
    simp only [Bool.and_eq_true, decide_eq_true_eq] at hc
    rcases Nat.lt_or_gt_of_ne hc.1 with h | h
    · exact H1 _ ⟨j, by omega, rfl⟩ hc.2
    · exact H2 _ ⟨j - (i + 1), by omega, by simp [show i + 1 + (j - (i + 1)) = j by omega]⟩ hc.2

/-- **the switch model is the source's skeleton**: with the five conditions as they stand in `apply_rule`, an assignment
to a switch does to the vector what the model's `assignAt` does — for every rule, every vector, every element and both values -/
theorem switch_assign_from_source (f1 f2 f3 : Str → Bool) (f4 : Bool → Str → Bool) (f5 : Nat → Bool)
    (h1 : Generated.switchTurnsOn? = some f1) (h2 : Generated.switchClearsOthers? = some f2)
    (h3 : Generated.switchKeepsLast? = some f3) (h4 : Generated.switchIsOtherOn? = some f4)
    (h5 : Generated.switchNoOtherOn? = some f5)
    (rule : Switch.Rule) (vals : List Bool) (i : Nat) (v : Bool) :
    applyRuleFromSource f1 f2 f3 f4 f5 rule vals i v = Switch.assignAt rule vals i v := by
  unfold applyRuleFromSource Switch.assignAt othersOn
  simp only [switchTurnsOn_agrees f1 h1, switchClearsOthers_agrees f2 h2, switchKeepsLast_agrees f3 h3,
    switchIsOtherOn_agrees f4 h4, switchNoOtherOn_agrees f5 h5, clearOthers_set, othersOn_length_zero]
  by_cases hi : i < vals.length
  · simp only [hi, if_true]
    cases v <;> cases rule <;> cases Switch.otherOn vals i <;> simp
  · simp only [hi, if_false]

end Indi.Decisions
