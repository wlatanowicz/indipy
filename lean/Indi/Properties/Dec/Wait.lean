/-
  Decision expressions regenerated from the repository's source on every run (Generated/Decisions.lean, translated by
  tools/extract_decisions.py): the four conditions of `waitforevent` (callback release, polling loop guard, timeout guard, arming of the timeout task); the wait model's three parts equal the source's skeletons.
  What `some f` / `none` stand for, and why every agreement proof ends in `all_goals`: Properties/Decisions.lean.
-/
import Indi.Generated.Decisions
import Indi.Model.Wait

namespace Indi.Decisions
open Indi

theorem waitRelease_agrees (f : Bool → Bool → Bool) (h : Generated.waitRelease? = some f) (release lockSet : Bool) :
    f release lockSet = (release && !lockSet) := by
  unfold Generated.waitRelease? at h
  cases h
  all_goals (cases release <;> cases lockSet <;> rfl)

theorem waitPollGuard_agrees (f : Bool → Bool) (h : Generated.waitPollGuard? = some f) (lockSet : Bool) :
    f lockSet = !lockSet := by
  unfold Generated.waitPollGuard? at h
  cases h
  all_goals (cases lockSet <;> rfl)

theorem waitTimeoutGuard_agrees (f : Bool → Bool) (h : Generated.waitTimeoutGuard? = some f) (lockSet : Bool) :
    f lockSet = !lockSet := by
  unfold Generated.waitTimeoutGuard? at h
  cases h
  all_goals (cases lockSet <;> rfl)

theorem waitTimeoutArmed_agrees (f : Option Nat → Bool) (h : Generated.waitTimeoutArmed? = some f) (τ : Option Nat) :
    f τ = (match τ with | some t => decide (t > 0) | none => false) := by
  unfold Generated.waitTimeoutArmed? at h
  cases h
  all_goals (cases τ <;> simp)

/-- the callback of the wait: every matching event of a batch is offered; the source's condition decides whether it releases -/
def deliverFromSource (release : Bool → Bool → Bool) (st : Wait.St) (t : Nat) (batch : List Bool) : Wait.St :=
  (batch.zipIdx).foldl (fun st p => if release p.1 st.lockSet then { st with lockSet := true, result := some (t, p.2) } else st) st

/-- the polling task woken at `t`: the `while` guard of the source decides between one more request and leaving the loop -/
def pollStepFromSource (guard : Bool → Bool) (st : Wait.St) (cfg : Wait.Cfg) (t : Nat) : Wait.St :=
  if cfg.polling && st.pollAlive && t = st.nextTick then
    if guard st.lockSet then { st with sends := t :: st.sends, nextTick := t + cfg.interval }
    else { st with pollAlive := false }
  else st

/-- the timeout task: created only if the source's arming condition holds, woken at `τ`, acting only if its guard holds -/
def timeoutStepFromSource (armed : Option Nat → Bool) (guard : Bool → Bool) (st : Wait.St) (cfg : Wait.Cfg) (t : Nat) : Wait.St :=
  if armed cfg.timeout && cfg.timeout = some t && guard st.lockSet then { st with timedOut := true, lockSet := true } else st

theorem deliver_fold_locked (t : Nat) (l : List (Bool × Nat)) (st : Wait.St) (hl : st.lockSet = true) :
    l.foldl (fun st p => if (p.1 && !st.lockSet) then { st with lockSet := true, result := some (t, p.2) } else st) st = st := by
  induction l with
  | nil => rfl
  | cons p ps ih => simp only [List.foldl_cons, hl, Bool.not_true, Bool.and_false]; exact ih

theorem deliver_fold (t : Nat) (batch : List Bool) : ∀ (k : Nat) (st : Wait.St),
    (batch.zipIdx k).foldl (fun st p => if (p.1 && !st.lockSet) then { st with lockSet := true, result := some (t, p.2) } else st) st =
      if st.lockSet then st else
      match Wait.firstTrue batch k with
      | some i => { st with lockSet := true, result := some (t, i) }
      | none => st := by
  induction batch with
  | nil => intro k st; simp [Wait.firstTrue]
  | cons b bs ih =>
    intro k st
    rw [List.zipIdx_cons, List.foldl_cons]
    cases b
    · simp only [Bool.false_and, Bool.false_eq_true, if_false, Wait.firstTrue]
      exact ih (k + 1) st
    · rcases Bool.eq_false_or_eq_true st.lockSet with hl | hl
      · simp only [hl, Bool.not_true, Bool.and_false, Bool.false_eq_true, if_false, if_true]
        exact deliver_fold_locked _ _ _ hl
      · simp only [hl, Bool.not_false, Bool.and_true, if_true, Bool.false_eq_true, if_false, Wait.firstTrue]
        exact deliver_fold_locked _ _ _ rfl

/-- **the wait model is the source's skeleton** (the three cooperating parts of `waitforevent`) -/
theorem wait_deliver_from_source (f : Bool → Bool → Bool) (h : Generated.waitRelease? = some f)
    (st : Wait.St) (t : Nat) (batch : List Bool) :
    deliverFromSource f st t batch = Wait.deliver st t batch := by
  unfold deliverFromSource Wait.deliver
  simp only [waitRelease_agrees f h]
  exact deliver_fold t batch 0 st

theorem wait_poll_from_source (f : Bool → Bool) (h : Generated.waitPollGuard? = some f)
    (st : Wait.St) (cfg : Wait.Cfg) (t : Nat) :
    pollStepFromSource f st cfg t = Wait.pollStep st cfg t := by
  unfold pollStepFromSource Wait.pollStep
  rw [waitPollGuard_agrees f h]
  cases st.lockSet <;> simp

theorem wait_timeout_from_source (f : Option Nat → Bool) (g : Bool → Bool)
    (h : Generated.waitTimeoutArmed? = some f) (h' : Generated.waitTimeoutGuard? = some g)
    (st : Wait.St) (cfg : Wait.Cfg) (t : Nat) :
    timeoutStepFromSource f g st cfg t = Wait.timeoutStep st cfg t := by
  unfold timeoutStepFromSource Wait.timeoutStep
  rw [waitTimeoutArmed_agrees f h, waitTimeoutGuard_agrees g h']
  cases cfg.timeout with
  | none => simp
  | some τ =>
    by_cases ht : t = τ
    · subst ht; simp
    · have ht' : ¬ τ = t := fun e => ht e.symm
      simp [ht, ht']

end Indi.Decisions
