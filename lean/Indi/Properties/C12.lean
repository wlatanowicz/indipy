/-
  C12 — No client message can take a driver, a connection or the server down.

  The driver-level theorems are in Properties/DevA.lean (shared with C14):
  `step_wf` (every reachable state of a well-formed driver is well-formed),
  `C12_no_raise` (no client message raises out of `message_from_client`, whatever it names
  or carries), `C12_frame` (only validly named elements may change).  The router part
  (an enableBLOB from anybody never raises; nothing is handed back to the sender) is
  C04/C05's model, whose `process` is total with no error outcome; Properties/C04.lean
  (`C04_not_to_sender`) is imported for that part and not used below.  The connection
  level is in Properties/C18b.lean (`C12_any_bytes_keep_serving`, `serving_stays`).
-/
import Indi.Properties.DevA
import Indi.Properties.C04

namespace Indi.Dev
open Indi Indi.Spec.Dev

/-- a whole session of client messages: nothing is ever raised and the driver stays well-formed, so every
later valid message is processed normally -/
theorem C12_session (d : Device) (hwf : WF d = true) (ms : List Msg) :
    (∀ pre m, pre ++ [m] <+: ms → (fromClient (pre.foldl (fun d m => (fromClient d m).dev) d) m).exc = none) ∧
      WF (ms.foldl (fun d m => (fromClient d m).dev) d) = true := by
  have hgen : ∀ l : List Msg, WF (l.foldl (fun d m => (fromClient d m).dev) d) = true := fun l =>
    List.foldlRecOn (motive := fun d => WF d = true) l _ hwf fun d0 h m _ => step_wf d0 h (.client m)
  exact ⟨fun pre m _ => C12_no_raise _ (hgen pre) m, hgen ms⟩

end Indi.Dev
