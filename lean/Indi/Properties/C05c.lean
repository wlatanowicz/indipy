/-
  C05 and the router's configurable default (`Router.DEFAULT_BLOB_POLICY` is a class attribute an application may override):
  the policy table never depends on the default, and what a client that has set its own policy for a device receives from that
  device is the same under every default.  (The statement behind the differential oracle `run_defaults` of tools/comp_router.py.)
-/
import Indi.Model.Rtr

namespace Indi.Rtr

/-- `self.blob_routing.get(client, {}).get(device_name, self.DEFAULT_BLOB_POLICY)` with the default as a parameter -/
def policyLookupD (dflt : Policy) (σ : State) (c : Nat) (device : Option Str) : Policy :=
  match nlookup c σ.blob with
  | none => dflt
  | some d => (olookup device d).getD dflt

/-- `process_message` on a router whose default policy is `dflt` -/
def processD (dflt : Policy) (σ : State) (m : RMsg) (sender : Sender) : State × List Target :=
  let σ1 := if m.fromClient && m.isEnableBlob then processEnableBlob σ m sender else σ
  let devs := if m.fromClient then
      (σ1.devices.filter fun d => Sender.dev d.id ≠ sender && accepts d m.device).map fun d => Target.dev d.id
    else []
  let clis := if m.fromDevice then
      (σ1.clients.filter fun c => Sender.cli c ≠ sender && deliverCond m.isBlob (policyLookupD dflt σ1 c m.device)).map Target.cli
    else []
  (σ1, devs ++ clis)

def stepD (dflt : Policy) (σ : State) : Op → State × List Target
  | .send m s => processD dflt σ m s
  | op => step σ op

def runD (dflt : Policy) (h : List Op) : State := h.foldl (fun σ op => (stepD dflt σ op).1) init

/-- the library's router is the instance with the default `Never` -/
theorem processD_default (σ : State) (m : RMsg) (s : Sender) : processD defaultPolicy σ m s = process σ m s := rfl

theorem stepD_state (d1 d2 : Policy) (σ : State) (op : Op) : (stepD d1 σ op).1 = (stepD d2 σ op).1 := by
  cases op <;> rfl

/-- the state a history leads to (devices, clients, policy table) does not depend on the default -/
theorem runD_independent (d1 d2 : Policy) (h : List Op) : runD d1 h = runD d2 h :=
  List.foldl_hom id fun σ op => stepD_state d1 d2 σ op

theorem explicit_policy (dflt : Policy) (σ : State) (c : Nat) (device : Option Str) (t : List (Option Str × Policy)) (p : Policy)
    (h1 : nlookup c σ.blob = some t) (h2 : olookup device t = some p) : policyLookupD dflt σ c device = p := by
  simp [policyLookupD, h1, h2]

/-- **explicit settings do not depend on the router's default**: a device message is delivered to a client that has its own
setting for that device under default `d1` iff it is under default `d2` -/
theorem C05_explicit_independent_of_default (d1 d2 : Policy) (σ : State) (m : RMsg) (sender : Sender) (c : Nat)
    (t : List (Option Str × Policy)) (p : Policy)
    (hnc : (m.fromClient && m.isEnableBlob) = false)
    (h1 : nlookup c σ.blob = some t) (h2 : olookup m.device t = some p) :
    (Target.cli c ∈ (processD d1 σ m sender).2) ↔ (Target.cli c ∈ (processD d2 σ m sender).2) := by
  have e1 := explicit_policy d1 σ c m.device t p h1 h2
  have e2 := explicit_policy d2 σ c m.device t p h1 h2
  unfold processD
  simp only [hnc, Bool.false_eq_true, if_false, List.mem_append, List.mem_ite_nil_right, List.mem_map, List.mem_filter,
    Target.cli.injEq, reduceCtorEq, and_false, exists_false, false_or, exists_eq_right, e1, e2]

end Indi.Rtr
