/-
  C15 — The client mirrors any server's property stream faithfully and survives it.
  C16 — Client change events are complete and exact.

  `Cli.processMessage` / `Cli.step` are the model of `BaseClient.process_message`,
  `trigger_event`, `onevent`, `rmonevent` (Model/Cli.lean); `Spec.Cli.refStep` is the
  reference interpreter of the INDI client rules, `eventsOf` the events a message must
  raise, `chainInv` the "never a stale value" invariant (Spec/Cli.lean).
  All statements are proved in this file from the lemmas of Proofs/Cli.lean: `processMessage_spec` (C15 and
  `C16_events`); `processMessage_cases`, the whole result of a message in four cases (`C16_changed_only`), and what it
  says of the keys, `processMessage_shape` (`MirrorWf_step`); for the chain, the invariant on the mirror as a map of
  views (`ChainL_of_chainInv`, `ChainL_processMessage`, `chainInv_of_ChainL`) and `Chained_processMessage`.
-/
import Indi.Proofs.Cli

namespace Indi.Cli
open Indi Indi.Spec.Cli

/-- **C15**: on a well-formed message the library's step is the reference interpreter's step, and nothing is raised -/
theorem C15_step (σ : Mirror) (m : Msg) (h : streamOk σ m = true) :
    (processMessage σ m).exc = none ∧ (processMessage σ m).mirror = refStep σ m := by
  have := processMessage_spec σ m h
  exact ⟨this.1, this.2.1⟩

def runMirror (σ : Mirror) (ms : List Msg) : Mirror := ms.foldl (fun σ m => (processMessage σ m).mirror) σ

/-- every message of the stream is well-formed where it arrives -/
def StreamOk : Mirror → List Msg → Prop
  | _, [] => True
  | σ, m :: ms => streamOk σ m = true ∧ StreamOk (processMessage σ m).mirror ms

/-- **C15** for every stream: the view equals the result of applying the messages in order with the INDI rules -/
theorem C15_stream (σ : Mirror) (ms : List Msg) (h : StreamOk σ ms) :
    runMirror σ ms = ms.foldl refStep σ := by
  induction ms generalizing σ with
  | nil => rfl
  | cons m ms ih =>
    obtain ⟨h1, h2⟩ := h
    simp only [runMirror, List.foldl_cons]
    rw [← (C15_step σ m h1).2]
    exact ih _ h2

theorem MirrorWf_step (σ : Mirror) (m : Msg) (h : MirrorWf σ) : MirrorWf (processMessage σ m).mirror := by
  rcases processMessage_shape σ m with e | ⟨d, V, hd, hV, e⟩ | ⟨d, hd, _, e⟩ <;> rw [e]
  · -- the mirror is unchanged
    exact h
  · -- a vector `V` is put into the entry `d` of its device (the empty entry, if a definition meets no device);
    -- `V` is a definition's view or has the keys of the view it replaces
    have hdw : VecsWf d.vecs := hd.elim (Wf_look h) fun hn => hn.2 ▸ VecsWf_nil
    exact Wf_oput _ _ h (VecsWf_oput _ _ hdw (hV.elim id fun ⟨v, hv, hk⟩ => hk ▸ VecsWf_look hdw hv))
  · -- a deletion, of the device or of one property of it
    split
    · exact Wf_odel _ h
    · exact Wf_oput _ _ h (VecsWf_odel _ (Wf_look h hd))

/-- **C16**: the events raised are exactly the changes the message makes -/
theorem C16_events (σ : Mirror) (m : Msg) (h : streamOk σ m = true) :
    (processMessage σ m).events = eventsOf σ m :=
  (processMessage_spec σ m h).2.2

/-- **C16**: each registered callback is invoked exactly for the events that match its four filters, in order -/
theorem C16_deliveries (st : State) (m : Msg) :
    (step st (.msg m)).calls = deliveries st.cbs (step st (.msg m)).events := by
  rfl

/-- **C16**: a removed callback is gone (so it is never invoked afterwards), the others stay -/
theorem C16_removed (cbs : List Callback) (c : RmCriteria) (cb : Callback) :
    cb ∈ rmonevent cbs c ↔ (cb ∈ cbs ∧ rmMatches c cb = false) := by
  simp [rmonevent, List.mem_filter]

/-- **C16**: only registered callbacks are ever invoked -/
theorem C16_only_registered (cbs : List Callback) (evs : List Event) (i : Nat) (ev : Event)
    (h : (i, ev) ∈ deliveries cbs evs) : ∃ cb ∈ cbs, cb.id = i ∧ accepts cb ev = true ∧ ev ∈ evs := by
  simp only [deliveries, List.mem_flatten, List.mem_map] at h
  obtain ⟨l, ⟨ev', hev', rfl⟩, hmem⟩ := h
  simp only [List.mem_map, List.mem_filter, Prod.mk.injEq] at hmem
  obtain ⟨cb, ⟨hcb, hacc⟩, hid, rfl⟩ := hmem
  exact ⟨cb, hcb, hid, hacc, hev'⟩

/-- **C16**: a value event is raised only when the value changed (old ≠ new), for updates -/
theorem C16_changed_only (σ : Mirror) (m : Msg) (k : VKind) (hk : setKind m.tag = some k) (hd : defKind m.tag = none)
    (d v e : Option Str) (o n : CVal) (h : Event.value d v e o n ∈ (processMessage σ m).events) : o ≠ n := by
  have _ := hk
  rcases processMessage_cases σ m rfl rfl with
    e' | ⟨_, hk', _⟩ | ⟨_, _, _, _, _, _, _, hrun, e'⟩ | ⟨_, _, _, e'⟩
  · simp [e'] at h
  · cases hd.symm.trans hk'
  · rw [e'] at h
    rcases List.mem_append.1 h with h | h
    · split at h <;> simp at h
    · obtain ⟨_, _, _, hev, hne⟩ := hrun.event _ h
      cases hev; exact hne
  · simp [e'] at h

/-- **C16**, the chain, for EVERY message (also an update with an ill-formed BLOB child, which raises): whatever
was applied before the exception has been announced, so a listener never holds a stale value -/
theorem C16_chain_always (σ : Mirror) (log : List Event) (hwf : MirrorWf σ) (hinv : chainInv σ log = true) (m : Msg) :
    chainInv (processMessage σ m).mirror (log ++ (processMessage σ m).events) = true :=
  chainInv_of_ChainL _ _ (MirrorWf_step σ m hwf) (ChainL_processMessage σ log hwf (ChainL_of_chainInv _ _ hinv) m)

/-- **C16**, the chain: if for every element of the mirror the value last announced in the log is its current
value, the same holds after any well-formed message, with that message's events appended -/
theorem C16_chain (σ : Mirror) (log : List Event) (hwf : MirrorWf σ) (hinv : chainInv σ log = true)
    (m : Msg) (h : streamOk σ m = true) :
    chainInv (processMessage σ m).mirror (log ++ (processMessage σ m).events) = true :=
  have _ := h
  C16_chain_always σ log hwf hinv m

/-- **C16**, the chain (old values): in an update every value event's old value is the value last announced
for that element before it (given the invariant) -/
theorem C16_old_is_previous_new (σ : Mirror) (log : List Event) (hwf : MirrorWf σ) (hinv : chainInv σ log = true)
    (m : Msg) (k : VKind) (hk : setKind m.tag = some k) (hd : defKind m.tag = none) (h : streamOk σ m = true)
    (pre post : List Event) (d v e : Option Str) (o n : CVal)
    (hev : (processMessage σ m).events = pre ++ Event.value d v e o n :: post) :
    track (log ++ pre) d v e = some o := by
  -- holds of every message that is no definition, well-formed or not, and without unique keys
  have _ := hwf; have _ := hk; have _ := h
  exact Chained_processMessage σ log (ChainL_of_chainInv _ _ hinv) m hd pre post d v e o n hev

end Indi.Cli
