/-
  C08: the hypotheses of `C08_publish` are satisfiable, and each added one is needed (kernel-checked on the model).
-/
import Indi.Properties.C08Defs
import Indi.Generated.Registry

namespace Indi.Sys.Ex08
open Indi Indi.Dev Indi.Cli Indi.Spec.Sys Indi.Sys

def reg := Generated.registry

def el (n : String) (v : Value) (en : Bool := true) : Dev.Elem :=
  { d := { name := s n, label := s n }, value := v, enabled := en }

def cam (elems : List Dev.Elem) : Device :=
  { name := s "cam",
    groups := [{ name := s "Main", enabled := true,
                 vecs := [{ name := s "CCD1", label := s "Image", kind := .blob, perm := some (s "ro"),
                            timeout := some (s "60"), rule := none, state := s "Ok", enabled := true, elems := elems }] }] }

/-- peers: network with BLOBs, network without, network with BLOBs on both connections, in-process -/
def kinds : List (Bool × Bool × Bool) := [(true, false, false), (false, false, false), (true, false, true), (false, true, false)]

def op (bs : List Nat) : Sys.Op := .driver 0 (.assign ⟨0, 0, 0⟩ (.blob bs (some (s ".fits"))))

/-! ### a non-trivial instance of the hypotheses of `C08_publish`: three BLOB elements (one unset, one holding
bytes, one disabled), four peers of all kinds, all synchronised by the handshake; the schedule is the in-order one -/
def w1 : World := start reg [cam [el "img" .none, el "thumb" (.blob [9, 9] (some (s ".jpg"))), el "off" .none false]] kinds

example :
    worldOk08 w1.devs = true ∧ allSynced w1 = true ∧ w1.devs[0]? = some (cam [el "img" .none, el "thumb" (.blob [9, 9] (some (s ".jpg"))), el "off" .none false]) ∧
    blobElemAt (cam [el "img" .none, el "thumb" (.blob [9, 9] (some (s ".jpg"))), el "off" .none false]) ⟨0, 0, 0⟩ = true ∧
    (∀ b ∈ [0, 255, 16], b < 256) ∧
    nextOk reg w1 (op [0, 255, 16]) (step reg w1 (op [0, 255, 16])) = true ∧ w1.peers.length = 4 := by
  decide +kernel


/-- the conjunct of `worldOk08` without (1): formats -/
def okButFormat (devs : List Device) : Bool :=
  devs.all fun d => Spec.Dev.WF d && d.groups.all fun g => g.vecs.all fun v =>
    v.kind != .blob || decide ((enabledElems v).map (·.d.name)).Nodup

/-- the conjunct of `worldOk08` without (2): distinct names -/
def okButNames (devs : List Device) : Bool :=
  devs.all fun d => Spec.Dev.WF d && d.groups.all fun g => g.vecs.all fun v =>
    v.kind != .blob || (v.elems.all fun e => !e.enabled || blobValOk e.value)

/-- the conclusion of `C08_publish` fails -/
def fails (w w' : World) (di : Nat) (a : Addr) : Bool :=
  (w.peers.zip w'.peers).any fun pp =>
    match w'.devs[di]? with
    | some d' => !c08Holds pp.1.blobs d' a.g a.v a.e pp.1.mirror pp.2.mirror
    | none => false

/-- (1) a sibling element holding a BLOB without format: the driver `cam` has the BLOB property `CCD1` with the
enabled elements `img` (unset) and `old` (`BLOB(b"\x01", None)`).  All four peers have performed the handshake
and are synchronised.  The driver assigns `b"\x07"` (format ".fits") to `img`.  The update lists both elements;
`old`'s `oneBLOB` has no `format` attribute, the network peers' `from_xml` rejects the update, and the peers that
enabled BLOBs still hold nothing for `img`. -/
def w2 : World := start reg [cam [el "img" .none, el "old" (.blob [1] none)]] kinds

theorem C08_publish_needs_format :
    okButFormat w2.devs = true ∧ allSynced w2 = true ∧
    blobElemAt (cam [el "img" .none, el "old" (.blob [1] none)]) ⟨0, 0, 0⟩ = true ∧
    nextOk reg w2 (op [7]) (step reg w2 (op [7])) = true ∧
    fails w2 (step reg w2 (op [7])) 0 ⟨0, 0, 0⟩ = true := by
  decide +kernel

/-- (2) two enabled elements with the same name `img`.  (A client's mirror is a dict, so a mirror showing both
is not one the library's client can build; `allSynced` nevertheless admits it.)  The driver assigns `b"\x07"` to
the first; the update carries two children named `img`; the second (unset, size 0) overwrites what the first
stored, and the peer ends up with empty bytes. -/
def mir3 : Mirror :=
  [(some (s "cam"), { vecs := [(some (s "CCD1"),
      { kind := .blob, name := some (s "CCD1"), group := some (s "Main"), label := some (s "Image"),
        timestamp := some (s "T"), message := none, state := some (s "Ok"),
        elems := [(some (s "img"), { name := some (s "img"), label := some (s "img"), value := .none }),
                  (some (s "img"), { name := some (s "img"), label := some (s "img"), value := .none })] })] })]

def w3 : World := { devs := [cam [el "img" .none, el "img" .none]], peers := [{ blobs := true, inproc := false, mirror := mir3 }] }

theorem C08_publish_needs_distinct_names :
    okButNames w3.devs = true ∧ allSynced w3 = true ∧
    blobElemAt (cam [el "img" .none, el "img" .none]) ⟨0, 0, 0⟩ = true ∧
    nextOk reg w3 (op [7]) (step reg w3 (op [7])) = true ∧
    fails w3 (step reg w3 (op [7])) 0 ⟨0, 0, 0⟩ = true := by
  decide +kernel

/-- (3) an address that names nothing: `c08Holds` is false whatever the peers hold -/
theorem C08_publish_needs_address :
    worldOk08 w1.devs = true ∧ allSynced w1 = true ∧
    nextOk reg w1 (.driver 0 (.assign ⟨0, 0, 7⟩ (.blob [7] (some (s ".fits")))))
      (step reg w1 (.driver 0 (.assign ⟨0, 0, 7⟩ (.blob [7] (some (s ".fits")))))) = true ∧
    fails w1 (step reg w1 (.driver 0 (.assign ⟨0, 0, 7⟩ (.blob [7] (some (s ".fits")))))) 0 ⟨0, 0, 7⟩ = true := by
  decide +kernel

end Indi.Sys.Ex08
