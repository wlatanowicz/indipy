/-
  C17 — Waiting for an event returns the first match or times out, whatever the timing.

  `Wait.run` is the operational model of `waitforevent` (instant by instant: synchronous
  deliveries, then the polling and timeout task steps in timer-creation order, then the
  waiter); `Spec.Wait` states the result declaratively over the whole timed sequence.
  The proofs go by an invariant over instants (Proofs/Wait.lean).
-/
import Indi.Proofs.Wait

namespace Indi.Wait
open Indi.Spec.Wait

/-- **C17**: for every configuration, every timed sequence of event batches (any number of batches, any number
of events per batch, any arrival instants ≥ 1, also coinciding with polling ticks or the timeout instant) and
every observation horizon, the operational model returns what the specification demands: the first matching
event if it arrives no later than the timeout instant, else a timeout exactly at the timeout instant, else it is
still pending; getProperties was sent exactly at the polling instants before completion; and a callback of the
wait is left iff it is still pending -/
theorem C17 (cfg : Cfg) (hd : 1 ≤ cfg.delay) (hi : 1 ≤ cfg.interval)
    (batches : List Batch) (hb : ∀ b ∈ batches, 1 ≤ b.1) (horizon : Nat) :
    holds cfg batches horizon (run cfg batches horizon).outcome (run cfg batches horizon).sends.reverse
      (run cfg batches horizon).cbRegistered = true := by
  have inv := inv_run cfg hd hi batches hb horizon
  simp [holds, expectedCbLeft, inv.outcome, inv.sends, inv.cb]

/-- never both, never neither: the outcome is an event only if a matching event arrived (at that instant, at
that index), a timeout only at the configured instant and only if no matching event arrived up to it -/
theorem C17_event_is_genuine (cfg : Cfg) (hd : 1 ≤ cfg.delay) (hi : 1 ≤ cfg.interval)
    (batches : List Batch) (hb : ∀ b ∈ batches, 1 ≤ b.1) (horizon t i : Nat)
    (h : (run cfg batches horizon).outcome = .event t i) :
    firstMatch batches horizon = some (t, i) ∧ (∀ τ, effectiveTimeout cfg = some τ → t ≤ τ) := by
  rw [(inv_run cfg hd hi batches hb horizon).outcome] at h
  exact (out_iff cfg batches horizon (.event t i)).1 h

theorem C17_timeout_is_genuine (cfg : Cfg) (hd : 1 ≤ cfg.delay) (hi : 1 ≤ cfg.interval)
    (batches : List Batch) (hb : ∀ b ∈ batches, 1 ≤ b.1) (horizon t : Nat)
    (h : (run cfg batches horizon).outcome = .timeout t) :
    effectiveTimeout cfg = some t ∧ t ≤ horizon ∧
      (∀ tm i, firstMatch batches horizon = some (tm, i) → t < tm) := by
  rw [(inv_run cfg hd hi batches hb horizon).outcome] at h
  exact (out_iff cfg batches horizon (.timeout t)).1 h

end Indi.Wait
