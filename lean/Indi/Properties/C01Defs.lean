/-
  C01: the decidable hypotheses of the theorems (Properties/C01.lean), the reachable deployments, and the kernel
  evaluations showing that the hypotheses are satisfiable and that each is needed.  Nothing here rests on the
  lemma library, so it is checked beside it.
-/
import Indi.Spec.Sys
import Indi.Generated.Registry

namespace Indi.Sys
open Indi Indi.Dev Indi.Cli Indi.Spec.Sys

abbrev reg := Generated.registry

/-- a value that, if it is a BLOB, is a proper `values.BLOB`: its format is a `str` (not `None`) and its content `bytes` -/
def blobOk : Value → Bool
  | .blob bs f => f.isSome && bs.all fun b => decide (b < 256)
  | _ => true

/-- operations in C01's scope: value assignments, state changes, enabling/disabling of properties and groups,
client writes, handshakes (for everything, a device, a property).  Element-level enabling publishes nothing (and is
not in the property); raw client messages enter through `.write` / `.handshake`.
A BLOB value assigned by the driver must be a proper BLOB (`blobOk`: without a format the update it publishes is
not a valid `setBLOBVector` and network clients drop it - `C01_needs_assign_format`; the byte condition is a typing
invariant of the model, Python `bytes` - `C01_needs_assign_bytes`); a BLOB value written by a client must carry a
format (an in-process client hands the message over as an object: `C01_needs_write_format`). -/
def opInScope : Op → Bool
  | .driver _ (.enableElem _ _) => false
  | .driver _ (.client _) => false
  | .driver _ (.assign _ v) => blobOk v
  | .driver _ (.setValue _ v) => blobOk v
  | .write _ _ _ writes => writes.all fun w => match w.2 with | .blob _ none => false | _ => true
  | _ => true

/-- the properties the theorem speaks about -/
def vecOk' (v : Vec) : Bool :=
  -- every BLOB value held carries a format and consists of bytes (else its setBLOBVector is dropped / decoded to
  -- something else by network clients: `C01_needs_format`, `C01_needs_bytes`)
  (v.elems.all fun e => blobOk e.value) &&
  -- the enabled elements have distinct names (the client keeps a dict by name: `C01_needs_distinct_elements`)
  decide ((v.elems.filter (·.enabled)).map (·.d.name)).Nodup

/-- the deployments the theorem speaks about (decidable): -/
def worldOk (devs : List Device) : Bool :=
  -- well-formed drivers (`Spec.Dev.WF`: values of the element's kind, valid states/perms/formats, distinct property names)
  devs.all (fun d => Spec.Dev.WF d) &&
  -- distinct device names
  decide (devs.map (·.name)).Nodup &&
  -- BLOB values are proper BLOBs, enabled elements have distinct names
  devs.all (fun d => d.groups.all fun g => g.vecs.all vecOk')

/-- the mirrors `C01_step` speaks about: Python dicts - a device entry holds a property name at most once
(the model's association lists could hold it twice; then `delProperty` removes one entry only: `C01_needs_dict_mirror`).
Every mirror built by `processMessage` from the empty one is like that (`C01_step` re-establishes it). -/
def peersOk (peers : List Peer) : Bool :=
  peers.all fun p => p.mirror.all fun nd => decide (nd.2.vecs.map (·.1)).Nodup

/-- the deployments reachable from the start by operations in scope, under any delivery schedules -/
inductive Reach (devs : List Device) (kinds : List (Bool × Bool × Bool)) : World → Prop
  | start : Reach devs kinds (start reg devs kinds)
  | step (w w' : World) (op : Op) : Reach devs kinds w → opInScope op = true → nextOk reg w op w' = true → Reach devs kinds w'

namespace Ex

def elem (n : String) (v : Value) : Dev.Elem := { d := { name := s n, label := s n }, value := v, enabled := true }

def blobVec (v : Value) : Vec :=
  { name := s "B", label := s "B", kind := .blob, perm := some (s "rw"), timeout := some (s "0"), rule := none,
    state := s "Idle", enabled := true, elems := [elem "b" v] }

def textVec (es : List Dev.Elem) : Vec :=
  { name := s "T", label := s "T", kind := .text, perm := some (s "rw"), timeout := some (s "0"), rule := none,
    state := s "Idle", enabled := true, elems := es }

def dev (vs : List Vec) : Device := { name := s "D", groups := [{ name := s "G", enabled := true, vecs := vs }] }

/-- a network client (control + BLOB connection) -/
def net : Bool × Bool × Bool := (true, false, false)
/-- an in-process snooping client -/
def snoop : Bool × Bool × Bool := (false, true, false)

/-- `worldOk` without its conditions on BLOB values and element names: well-formed drivers with distinct names -/
def worldOk₀ (devs : List Device) : Bool := devs.all (fun d => Spec.Dev.WF d) && decide (devs.map (·.name)).Nodup

def ok : Str := s "Ok"

/-- a network client that enabled BLOBs on its control connection as well (`enableBLOB Also`) -/
def also : Bool × Bool × Bool := (true, false, true)

/-- one device with a text and a BLOB property -/
def good : Device := dev [textVec [elem "a" (.text (s "x")), elem "c" .none], blobVec (.blob [1, 2, 255] (some (s ".bin")))]

end Ex

open Ex in
/-- the hypotheses are satisfiable by a non-trivial deployment (one device with a text and a BLOB property; a
network peer, a snooping peer and a network peer with `enableBLOB Also`): it starts in sync and stays in sync under
a state change that transfers the BLOB, a client write from the snooping peer and a write of a BLOB from the
network peer (in-order schedule); the operations are in scope -/
example :
    worldOk [good] = true ∧
    allSynced (start reg [good] [net, snoop, also]) = true ∧ peersOk (start reg [good] [net, snoop, also]).peers = true ∧
    opInScope (.driver 0 (.state 0 1 (some ok))) = true ∧
    opInScope (.write 1 (s "D") (s "T") [(s "a", .text (s " y "))]) = true ∧
    opInScope (.write 0 (s "D") (s "B") [(s "b", .blob [7] (some (s ".x")))]) = true ∧
    allSynced (run reg (start reg [good] [net, snoop, also])
      [.driver 0 (.state 0 1 (some ok)), .write 1 (s "D") (s "T") [(s "a", .text (s " y "))],
       .write 0 (s "D") (s "B") [(s "b", .blob [7] (some (s ".x")))]]) = true := by
  decide +kernel

open Ex in
/-- `worldOk` needs "BLOB values carry a format": a driver holding `BLOB(b"\x01", None)` (accepted by `WF`) starts
in sync (definitions carry no payload), but the `setBLOBVector` its next state change publishes has no `format`
attribute, the network client's parser rejects it (`format` is a required keyword of oneBLOB) and the client keeps
state `Idle` while the driver holds `Ok` -/
theorem C01_needs_format :
    let devs := [dev [blobVec (.blob [1] none)]]
    let w := start reg devs [net]
    let op : Op := .driver 0 (.state 0 0 (some ok))
    worldOk₀ devs = true ∧ peersOk w.peers = true ∧ allSynced w = true ∧ opInScope op = true ∧
      nextOk reg w op (step reg w op) = true ∧ allSynced (step reg w op) = false := by
  decide +kernel

open Ex in
/-- `worldOk` needs "BLOB values consist of bytes" (a typing invariant of the model: a Python `bytes` cannot hold
256): `B64.encode [256]` is the text of the byte 252, which is what the client then holds -/
theorem C01_needs_bytes :
    let devs := [dev [blobVec (.blob [256] (some (s ".x")))]]
    let w := start reg devs [net]
    let op : Op := .driver 0 (.state 0 0 (some ok))
    worldOk₀ devs = true ∧ peersOk w.peers = true ∧ allSynced w = true ∧ opInScope op = true ∧
      nextOk reg w op (step reg w op) = true ∧ allSynced (step reg w op) = false := by
  decide +kernel

open Ex in
/-- `worldOk` needs "enabled elements of a property have distinct names": `defTextVector` lists both elements
named `a`, the client's `{ch.name: ch for ch in children}` keeps one - already `C01_start` fails -/
theorem C01_needs_distinct_elements :
    let devs := [dev [textVec [elem "a" (.text (s "x")), elem "a" (.text (s "y"))]]]
    worldOk₀ devs = true ∧ allSynced (start reg devs [net]) = false := by
  decide +kernel

open Ex in
/-- `opInScope` needs "an assigned BLOB value carries a format": the client holds the BLOB transferred before,
the driver assigns `BLOB(b"\x02", None)`, the update is not a valid `setBLOBVector`, the client keeps the old
payload (the same with `set_value`) -/
theorem C01_needs_assign_format :
    let devs := [dev [blobVec (.blob [1] (some (s ".x")))]]
    let w := step reg (start reg devs [net]) (.driver 0 (.state 0 0 (some ok)))
    let op : Op := .driver 0 (.assign ⟨0, 0, 0⟩ (.blob [2] none))
    let op' : Op := .driver 0 (.setValue ⟨0, 0, 0⟩ (.blob [2] none))
    worldOk w.devs = true ∧ peersOk w.peers = true ∧ allSynced w = true ∧
      nextOk reg w op (step reg w op) = true ∧ allSynced (step reg w op) = false ∧
      nextOk reg w op' (step reg w op') = true ∧ allSynced (step reg w op') = false := by
  decide +kernel

open Ex in
/-- `opInScope` needs "an assigned BLOB value consists of bytes" (model typing invariant, as `C01_needs_bytes`) -/
theorem C01_needs_assign_bytes :
    let devs := [dev [blobVec .none]]
    let w := start reg devs [net]
    let op : Op := .driver 0 (.assign ⟨0, 0, 0⟩ (.blob [300] (some (s ".x"))))
    worldOk w.devs = true ∧ peersOk w.peers = true ∧ allSynced w = true ∧
      nextOk reg w op (step reg w op) = true ∧ allSynced (step reg w op) = false := by
  decide +kernel

open Ex in
/-- `opInScope` needs "a BLOB value written by a client carries a format": the in-process (snooping) client
submits `newBLOBVector` with a `oneBLOB` whose format is `None` as an object (no parser in between), the driver
stores `BLOB(b"\x02", None)` and publishes an update the network client cannot parse: it keeps the old payload.
(The same write from the network client is rejected by the router's parser and changes nothing.) -/
theorem C01_needs_write_format :
    let devs := [dev [blobVec (.blob [1] (some (s ".x")))]]
    let w := step reg (start reg devs [net, snoop]) (.driver 0 (.state 0 0 (some ok)))
    let op : Op := .write 1 (s "D") (s "B") [(s "b", .blob [2] none)]
    worldOk w.devs = true ∧ peersOk w.peers = true ∧ allSynced w = true ∧
      nextOk reg w op (step reg w op) = true ∧ allSynced (step reg w op) = false := by
  decide +kernel

open Ex in
/-- `C01_step` needs `peersOk`: a mirror (as an association list) that holds the property `T` twice under the
device is `allSynced` with a driver whose `T` is enabled; when the driver disables `T`, `delProperty` removes one
entry and the other one stays visible.  (A Python dict cannot be in that state; no reachable mirror is.) -/
theorem C01_needs_dict_mirror :
    let c : CVec := { kind := .text, name := some (s "T"), group := some (s "G"), label := some (s "T"),
                      timestamp := none, message := none, state := some (s "Idle"), elems := [] }
    let w : World := { devs := [dev [textVec []]],
                       peers := [{ blobs := true, inproc := false,
                                   mirror := [(some (s "D"), { vecs := [(some (s "T"), c), (some (s "T"), c)] })] }] }
    let op : Op := .driver 0 (.enableVec 0 0 false)
    worldOk w.devs = true ∧ allSynced w = true ∧ opInScope op = true ∧ peersOk w.peers = false ∧
      nextOk reg w op (step reg w op) = true ∧ allSynced (step reg w op) = false := by
  decide +kernel

end Indi.Sys
