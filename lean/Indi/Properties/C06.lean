/-
  C06 — a client's write changes exactly the addressed element, to the value sent.
  Model: Indi/Model/Sys.lean (`submitMsg`, `react`), Spec: `Spec.Sys.c06Holds` (the check's oracle).
  Lemmas: Proofs/Sys06.lean, ending in `write_core`; the side conditions `worldOk06`, `writesOkFor`, `writesOk`:
  Properties/C06Defs.lean.

  In `C06_write_for` the side condition on the writes depends on the kind of the submitting peer (in-process or
  network); `C06_write` has the peer-independent `writesOk`.  Every conjunct of the side conditions is justified by a
  kernel-checked counterexample in Properties/C06Ex.lean, two apart: that the device has the property, and the switch
  values (`C06_switch_values_remark`).  Nothing here uses that file: it is imported so that whoever builds this module
  checks the counterexamples too.
-/
import Indi.Proofs.Sys06
import Indi.Properties.C06Ex

namespace Indi.Sys
open Indi Indi.Dev Indi.Cli Indi.Spec.Sys

/-- **C06** (by kind of peer): when peer `ci`, which sees the deployment as it is, submits new values for some
elements of one property of one device, every driver ends up as `c06Holds` demands -/
theorem C06_write_for (w : World) (ci : Nat) (dev prop : Str) (writes : List (Str × CVal))
    (hok : Indi.Sys.worldOk06 w.devs = true) (hs : allSynced w = true) (p : Peer) (hp : w.peers[ci]? = some p)
    (hw : ∀ d ∈ w.devs, d.name = dev → writesOkFor p.inproc d prop writes = true) :
    let ds' := (react Generated.registry w (.write ci dev prop writes)).1
    ds'.length = w.devs.length ∧
    ∀ p ∈ w.devs.zip ds', c06Holds p.1 dev prop (writes.map fun nv => (nv.1, asValue nv.2)) p.2 = true :=
  write_core w ci dev prop writes hok p (List.all_eq_true.1 hs p (List.mem_of_getElem? hp)) hp hw

/-- **C06**: when peer `ci`, which sees the deployment as it is, submits new values for some elements of one
property of one device, every driver ends up as `c06Holds` demands: exactly those elements of that device take
the submitted values (text as it travels, numbers numerically equal, BLOBs byte for byte; switches subject to
the rule), nothing else anywhere changes -/
theorem C06_write (w : World) (ci : Nat) (dev prop : Str) (writes : List (Str × CVal))
    (hok : Indi.Sys.worldOk06 w.devs = true) (hs : allSynced w = true) (hci : ci < w.peers.length)
    (hw : ∀ d ∈ w.devs, d.name = dev → writesOk d prop writes = true) :
    let ds' := (react Generated.registry w (.write ci dev prop writes)).1
    ds'.length = w.devs.length ∧
    ∀ p ∈ w.devs.zip ds', c06Holds p.1 dev prop (writes.map fun nv => (nv.1, asValue nv.2)) p.2 = true := by
  have hp : w.peers[ci]? = some w.peers[ci] := List.getElem?_eq_getElem hci
  apply C06_write_for w ci dev prop writes hok hs _ hp
  intro d hd hn
  have := hw d hd hn
  simp only [writesOk, Bool.and_eq_true] at this
  cases w.peers[ci].inproc
  · exact this.2
  · exact this.1

end Indi.Sys
