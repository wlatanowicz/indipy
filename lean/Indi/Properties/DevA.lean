/-
  C12, C14 — theorems about the driver-framework model (Model/Dev.lean) against the executable specification
  (Spec/Dev.lean).  The specification predicates `c12Holds`, `c14Holds` are the very oracles the checks evaluate on the
  implementation's observed behaviour.
-/
import Indi.Proofs.DevA

namespace Indi.Dev
open Indi Indi.Spec.Dev

/-- every reachable state of a well-formed driver is well-formed: each operation preserves `WF` -/
theorem step_wf (d : Device) (hwf : WF d = true) (op : Op) : WF (step d op).dev = true := by
  cases op with
  | assign a v => exact ((assign_wrun d a v).steps.rwf fun _ _ _ _ h => h.edit.edit.rwf).wf hwf
  | setValue a v => exact ((setValue_wrun d a v).steps.rwf fun _ _ _ _ h => h.edit.edit.rwf).wf hwf
  | state g v st => exact (setState_rel d g v st).wf hwf
  | enableVec g v b => exact (enableVec_rel d g v b).wf hwf
  | enableGroup g b => exact enableGroup_wf d hwf g b
  | enableElem a b => exact ((enableElem_steps d a b).rwf fun _ _ _ _ h => h.edit.rwf).wf hwf
  | client m =>
    obtain ⟨F, h, _⟩ := fromClient_rel d m
    exact (h.mono (VR.rwf F)).wf hwf

/-- **C12**: no client message, whatever it names or carries, raises out of message handling -/
theorem C12_no_raise (d : Device) (hwf : WF d = true) (m : Msg) : (fromClient d m).exc = none := by
  rcases fromClient_shape d m with ⟨L, h⟩ | ⟨gi, vi, h⟩ | h
  · rw [h]; exact sendDefs_exc _ d ((WF_iff d).1 hwf).1
  · rw [h]; exact applyChildren_exc _ _ _ d
  · rw [h]

/-- **C12**: a client message changes nothing but the elements it validly names (switch siblings under the
rule, and elements with a refreshing Read handler, excepted) -/
theorem C12_frame (d : Device) (hwf : WF d = true) (m : Msg) :
    c12Holds d m false (fromClient d m).dev = true := by
  have _ := hwf
  obtain ⟨F, h, hF⟩ := fromClient_rel d m
  exact c12_of_rel d _ m F h hF

/-- an accepted assignment, with the calls of the Write handlers `set_value` makes in front of it (none for a driver-side
assignment), obeys the contract -/
theorem c14_accepted (d : Device) (a : Addr) (val : Value) (g : Group) (v : Vec) (e : Elem)
    (hv : getVec d a.g a.v = some (g, v)) (he : v.elems[a.e]? = some e)
    (hnr : v.elems.any hasRefresh = false) (hok : (assign d a val).exc = none) (isWrite : Bool)
    (hvet : ((if isWrite then e.d.writeH else []).any fun h => !h.async && h.veto) = false) :
    c14Holds d a isWrite val false
      (((if isWrite then e.d.writeH else []).filter fun h => !h.async).map (wMk val e) ++ (assign d a val).calls)
      (((if isWrite then e.d.writeH else []).filter fun h => h.async).map (wMk val e) ++ (assign d a val).tasks)
      (countSets (assign d a val).msgs) (assign d a val).dev = some true := by
  obtain ⟨v2, e', mo, hs, he', hmo, h⟩ := assign_accepted d a val g v e hv he hnr hok
  have hen : vecEnabled g v2 = vecEnabled g v := by simp [vecEnabled, hs.enabled]
  rw [h]
  unfold c14Holds
  simp only [hv, getVec_setVec_same hv, he, he', hnr, Bool.or_false, Bool.false_eq_true, if_false,
    setMsg_count _ _ _ _ hmo, hen]
  simp only [writeContract, hvet, Bool.false_eq_true, if_false,
    Bool.true_or, Bool.not_true, Bool.false_or, Bool.and_true, Option.some.injEq, Bool.and_eq_true, beq_iff_eq]
  refine ⟨⟨⟨?_, ?_⟩, trivial⟩, ?_⟩
  · congr 1; split <;> rfl
  · congr 1; split <;> rfl
  · by_cases hk : v.kind = .switch
    · simp [hk]
    · simp [hs.stored hk he', pyNe_self]

/-- **C14**: a client write (`set_value`) that is accepted obeys the event contract: every Write handler once
with the requested value (plain ones before any state change, coroutines as tasks); unless vetoed the element takes
the value, exactly one update is published iff the property is enabled, Change handlers once with (old, new) iff the
value changed; a vetoed write changes and publishes nothing -/
theorem C14_write (d : Device) (a : Addr) (val : Value) (g : Group) (v : Vec)
    (hv : getVec d a.g a.v = some (g, v)) (he : a.e < v.elems.length)
    (hnr : v.elems.any hasRefresh = false) (hok : (setValue d a val).exc = none) :
    c14Holds d a true val false (setValue d a val).calls (setValue d a val).tasks
      (countSets (setValue d a val).msgs) (setValue d a val).dev = some true := by
  have he' : v.elems[a.e]? = some v.elems[a.e] := List.getElem?_eq_getElem he
  rcases setValue_cases d a val g v _ hv he' with ⟨hvet, hs⟩ | ⟨hvet, hs⟩
  · rw [hs]
    unfold c14Holds
    simp only [hv, he', hnr, Bool.or_false, Bool.false_eq_true, if_false, if_true]
    simp only [writeContract, hvet, if_true]
    simp [countSets, wMk]
  · rw [hs] at hok ⊢
    exact c14_accepted d a val g v _ hv he' hnr hok true hvet

/-- **C14**: a driver-side assignment behaves the same but raises no Write event -/
theorem C14_assign (d : Device) (a : Addr) (val : Value) (g : Group) (v : Vec)
    (hv : getVec d a.g a.v = some (g, v)) (he : a.e < v.elems.length)
    (hnr : v.elems.any hasRefresh = false) (hok : (assign d a val).exc = none) :
    c14Holds d a false val false (assign d a val).calls (assign d a val).tasks
      (countSets (assign d a val).msgs) (assign d a val).dev = some true :=
  c14_accepted d a val g v _ hv (List.getElem?_eq_getElem he) hnr hok false rfl

end Indi.Dev
