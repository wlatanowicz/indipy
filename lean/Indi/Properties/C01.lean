/-
  C01 — the client view converges to the device's true property state.

  Model: Indi/Model/Sys.lean (drivers + router fan-out + wire + client mirrors; after every operation all traffic
  is delivered; a network peer reads BLOB updates from its BLOB connection and the rest from its control
  connection, interleaved in any way: `outcomes`, `nextOk`).
  Spec:  Indi/Spec/Sys.lean (`synced`, `peerSynced`, `allSynced`) - the very predicate the check evaluates on the
  real deployment's observed drivers and mirrors.
  Proofs: Indi/Proofs/Sys*.lean (map of the relations: Proofs/NOTES-C01.md), ending in `SysP.start_synced` and
  `SysP.world_next` of Proofs/SysWorld.lean, which are stated over the propositions `SysP.DevsOK`, `PeersWf`, `OpOK`;
  this file shows that the decidable hypotheses mean those (exact wire image of emitted messages: Proofs/DevB.lean).
  The definitions of the hypotheses and the kernel evaluations are in Properties/C01Defs.lean.

  The theorems are proved for ALL interleavings (`nextOk`).  Beyond well-formed drivers with distinct names
  (`Ex.worldOk₀`) and the list of operations, the hypotheses ask the following; each is needed — the statement
  without it is false, see the counterexamples in Properties/C01Defs.lean (each evaluated by the kernel) and
  Proofs/NOTES-C01.md:

    worldOk   BLOB values held by a driver carry a format                       (C01_needs_format)
              … and consist of bytes                                             (C01_needs_bytes)
              the enabled elements of a property have distinct names             (C01_needs_distinct_elements)
    opInScope BLOB values assigned / written carry a format and are bytes        (C01_needs_assign_format,
                                                                                  C01_needs_assign_bytes, C01_needs_write_format)
    peersOk   (`C01_step` only) a mirror is a dict of dicts: no property name twice under a device
                                                                                 (C01_needs_dict_mirror)
-/
import Indi.Properties.C01Defs
import Indi.Proofs.SysWorld

namespace Indi.Sys
open Indi Indi.Dev Indi.Cli Indi.Spec.Sys

theorem blobOk_iff (v : Value) : blobOk v = true ↔ DevB.hasFormat v = true ∧ SysP.bytesOk v = true := by
  cases v with
  | blob bs f => cases f <;> simp [blobOk, DevB.hasFormat, SysP.bytesOk]
  | _ => simp [blobOk, DevB.hasFormat, SysP.bytesOk]

theorem vecOk'_iff (v : Vec) (hok : Spec.Dev.vecOk v = true) : vecOk' v = true ↔ SysP.VG v := by
  simp only [vecOk', Bool.and_eq_true, List.all_eq_true, decide_eq_true_eq, blobOk_iff, imp_and, forall_and]
  exact ⟨fun ⟨⟨h1, h2⟩, h3⟩ => ⟨hok, List.all_eq_true.2 h1, List.all_eq_true.2 h2, decide_eq_true h3⟩,
    fun h => ⟨⟨List.all_eq_true.1 h.fmt, List.all_eq_true.1 h.bytes⟩, of_decide_eq_true h.names⟩⟩

theorem worldOk_iff (devs : List Device) : worldOk devs = true ↔ SysP.DevsOK devs := by
  simp only [worldOk, Bool.and_eq_true, List.all_eq_true, decide_eq_true_eq, SysP.DevsOK, SysP.DevOK,
    ← Dev.forall_getVec_iff]
  have hv : ∀ {d}, Spec.Dev.WF d = true → ∀ {gi vi g v}, getVec d gi vi = some (g, v) → (vecOk' v = true ↔ SysP.VG v) :=
    fun {_} hwf {gi vi g v} hg => vecOk'_iff v (((WF_iff _).1 hwf).1 gi vi g v hg)
  exact ⟨fun ⟨⟨h1, h2⟩, h3⟩ => ⟨fun d hd => ⟨h1 d hd, fun gi vi g v hg => (hv (h1 d hd) hg).1 (h3 d hd gi vi g v hg)⟩, h2⟩,
    fun ⟨h1, h2⟩ => ⟨⟨fun d hd => (h1 d hd).1, h2⟩,
      fun d hd gi vi g v hg => (hv (h1 d hd).1 hg).2 ((h1 d hd).2 gi vi g v hg)⟩⟩

theorem peersOk_iff (peers : List Peer) : peersOk peers = true ↔ SysP.PeersWf peers := by
  simp only [peersOk, List.all_eq_true, decide_eq_true_eq, SysP.PeersWf, SysP.VWf]

theorem opInScope_ok {op : Op} (h : opInScope op = true) : SysP.OpOK op := by
  cases op with
  | driver di o =>
    cases o with
    | assign _ v | setValue _ v => exact Bool.and_eq_true_iff.2 ((blobOk_iff v).1 h)
    | enableElem _ _ | client _ => cases h
    | _ => rfl
  | write ci dev prop writes => exact List.all_eq_true.1 h
  | handshake ci dev name => trivial

/-- **C01** (initial convergence): once every peer has connected and performed the getProperties handshake, every
peer sees every device as it is -/
theorem C01_start (devs : List Device) (kinds : List (Bool × Bool × Bool)) (h : worldOk devs = true) :
    allSynced (start reg devs kinds) = true :=
  (SysP.start_synced devs kinds ((worldOk_iff devs).1 h)).1

/-- **C01** (preservation): from a deployment in which every peer sees every device as it is, any operation in
scope, followed by delivery of all traffic under ANY interleaving of each peer's two connections, leads to a
deployment in which every peer again sees every device as it is (and which is again well-formed) -/
theorem C01_step (w w' : World) (op : Op) (hok : worldOk w.devs = true)
    (hm : peersOk w.peers = true)          -- mirrors are dicts (see `peersOk`)
    (hs : allSynced w = true)
    (hop : opInScope op = true) (hn : nextOk reg w op w' = true) :
    allSynced w' = true ∧ worldOk w'.devs = true ∧ peersOk w'.peers = true := by
  obtain ⟨h1, h2, h3⟩ := SysP.world_next ((worldOk_iff _).1 hok) ((peersOk_iff _).1 hm) hs (opInScope_ok hop) hn
  exact ⟨h1, (worldOk_iff _).2 h2, (peersOk_iff _).2 h3⟩

/-- every reachable deployment is in sync, well-formed, and its mirrors are dicts -/
theorem C01_invariant (devs : List Device) (kinds : List (Bool × Bool × Bool)) (h : worldOk devs = true)
    (w : World) (hr : Reach devs kinds w) :
    allSynced w = true ∧ worldOk w.devs = true ∧ peersOk w.peers = true := by
  induction hr with
  | start =>
    obtain ⟨h1, h2, h3⟩ := SysP.start_synced devs kinds ((worldOk_iff devs).1 h)
    exact ⟨h1, (worldOk_iff _).2 h2, (peersOk_iff _).2 h3⟩
  | step w w' op _ hop hn ih =>
    exact C01_step w w' op ih.2.1 ih.2.2 ih.1 hop hn

/-- **C01**: after ANY sequence of driver-side updates and client-side writes, once all in-flight messages are
delivered, every connected peer sees exactly the device's currently enabled properties, each with the device's
current state, metadata and element values, and no others -/
theorem C01_converges (devs : List Device) (kinds : List (Bool × Bool × Bool)) (h : worldOk devs = true)
    (w : World) (hr : Reach devs kinds w) : allSynced w = true :=
  (C01_invariant devs kinds h w hr).1

end Indi.Sys
