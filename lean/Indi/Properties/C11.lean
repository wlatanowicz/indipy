/-
  C11 — Garbage on the wire cannot hang, crash or bloat the receiver (abstract level).

  Totality is the termination proof Lean demanded for `processLoop`
  (Model/Buf.lean, measure: retained length); there is no error outcome in the
  model.  "Junk never prevents or delays the valid messages around it" is
  `C11_long_junk_transparent` (Properties/C11b.lean), whose gaps are opener-free junk
  of any length; C02's theorem is the case of gaps that fit the threshold.
  The four theorems are the `processLoop_*` lemmas of Proofs/Buf.lean (instances of the induction principle
  `processLoop_rec`), stated for `process`.
-/
import Indi.Proofs.Buf

namespace Indi.Buf

variable {M : Type}

/-- with the threshold enabled, no more than the threshold is retained after `process`, whatever the input -/
theorem C11_bounded (parse : Str → ParseRes M) (tags : List Str) (t : Nat) (data : Str) :
    (process parse tags (some t) data).2.length ≤ t :=
  processLoop_bounded parse tags t _

/-- only genuine messages are handed to the consumer: every delivered value was returned by the parser
for some prefix-candidate of the buffer -/
theorem C11_genuine (parse : Str → ParseRes M) (tags : List Str) (threshold : Option Nat) (data : Str) (m : M)
    (h : m ∈ (process parse tags threshold data).1) : ∃ x, parse x = .msg m :=
  processLoop_genuine parse tags threshold _ m h

/-- what is retained is always a suffix of what was there: nothing is invented -/
theorem C11_retained_suffix (parse : Str → ParseRes M) (tags : List Str) (threshold : Option Nat) (data : Str) :
    (process parse tags threshold data).2 <:+ data :=
  (processLoop_suffix parse tags threshold _).trans (cleanup_suffix tags data)

/-- junk without a known opener is dropped or kept as a tail, and never delivers anything -/
theorem C11_junk_delivers_nothing (parse : Str → ParseRes M) (tags : List Str) (threshold : Option Nat)
    (hA1 : ParserNeedsOpener parse tags) (junk : Str) (hj : NoOpener tags junk) :
    (process parse tags threshold junk).1 = [] :=
  processLoop_noOpener parse tags threshold hA1 _
    (NoOpener_suffix tags junk _ (cleanup_suffix tags junk) hj)

end Indi.Buf
