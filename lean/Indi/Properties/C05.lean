/-
  C05 — Device messages fan out to every client, subject to its BLOB policy.

  The policy is specified as a *history function* (`Spec.Rtr.policyOf`): the
  value of the client's most recent accepted enableBLOB for that device since
  its last registration, else Never.  The model keeps `blob_routing`; the
  refinement `Inv.pol` (Proofs/Rtr.lean) relates the two for every history.
-/
import Indi.Proofs.RtrDeliver
import Indi.Generated.Registry

namespace Indi.Rtr
open Indi.Spec.Rtr Indi

/-- the dict lookup the router performs equals the history function, for every history -/
theorem policy_refinement (h : List Op) (c : Nat) (d : Option Str) :
    policyLookup (run h) c d = policyOf h c d :=
  policyLookup_run h c d

/-- **C05**: after any history, a device-originated message is delivered to client `c`
exactly when `c` is in the router's client list, is not the sender, and its policy for the
message's device allows the message -/
theorem C05_clients (h : List Op) (m : RMsg) (sd : Sender) (c : Nat) :
    Target.cli c ∈ (step (run h) (.send m sd)).2 ↔
      (m.fromDevice = true ∧ c ∈ (run h).clients ∧ Sender.cli c ≠ sd ∧
        allows (policyOf (h ++ [.send m sd]) c m.device) m.isBlob = true) := by
  rw [← policyLookup_run, run_snoc, ← deliverCond_eq_allows]
  exact mem_process_cli (run h) m sd c

/-- for a message that is not an enableBLOB the policy in force is that of the history before it -/
theorem policyOf_send_other (h : List Op) (m : RMsg) (sd : Sender) (hne : (m.fromClient && m.isEnableBlob) = false)
    (c : Nat) (d : Option Str) : policyOf (h ++ [.send m sd]) c d = policyOf h c d := by
  rw [policyOf_snoc, policyOf]
  cases sd with
  | nobody => rfl
  | dev i => rfl
  | cli c0 => simp only [policyOfRev, hne, Bool.false_and, Bool.false_eq_true, if_false]

/-- who is registered: under the API precondition the client list has no duplicates and
contains exactly the clients whose last register/unregister operation was a registration -/
theorem clients_are_registered (h : List Op) (hwf : WellFormed h) :
    (run h).clients.Nodup ∧ ∀ c, c ∈ (run h).clients ↔ registered h.reverse c = true := by
  rw [run_eq_runRev]
  exact clients_registered h.reverse hwf

/-- the three policies mean what the protocol says -/
theorem allows_table :
    (∀ b, allows .never b = !b) ∧ (∀ b, allows .also b = true) ∧ (∀ b, allows .only b = b) := by
  refine ⟨?_, ?_, ?_⟩ <;> intro b <;> cases b <;> rfl

/-- **independence**: an enableBLOB of client `c` for device `d` changes no other client's
policy and no other device's policy of the same client -/
theorem C05_frame (h : List Op) (m : RMsg) (c : Nat) (c' : Nat) (d' : Option Str)
    (hne : c' ≠ c ∨ d' ≠ m.device) :
    policyOf (h ++ [.send m (.cli c)]) c' d' = policyOf h c' d' := by
  rw [policyOf_snoc, policyOf]
  refine if_neg fun hacc => ?_
  simp only [Bool.and_eq_true, decide_eq_true_eq] at hacc
  exact hne.elim (fun h1 => h1 hacc.1.1.2.symm) (fun h1 => h1 hacc.1.2.symm)

/-- a registered client's enableBLOB takes effect at once, for itself and that device -/
theorem C05_enable_takes_effect (h : List Op) (m : RMsg) (c : Nat)
    (hm : m.fromClient = true ∧ m.isEnableBlob = true) (hreg : registered h.reverse c = true) :
    policyOf (h ++ [.send m (.cli c)]) c m.device = m.value := by
  rw [policyOf_snoc]
  exact if_pos (by simp [hm.1, hm.2, hreg])

/-- re-registration (and unregistration) resets the client's policies to the default -/
theorem C05_reregister_resets (h : List Op) (c : Nat) (d : Option Str) :
    policyOf (h ++ [.regCli c]) c d = .never ∧ policyOf (h ++ [.unreg c]) c d = .never :=
  ⟨(policyOf_snoc h _ c d).trans (if_pos rfl), (policyOf_snoc h _ c d).trans (if_pos rfl)⟩

/-- the default policy of the repository is Never, as the specification assumes -/
theorem default_policy_is_never : Generated.defaultBlobPolicy = s "Never" := by decide +kernel

/-- the BLOB payload update is setBLOBVector, a device-originated class; every def*/set*
class, delProperty and message are device-originated in the repository's table -/
theorem C05_device_kinds :
    ∀ t ∈ [s "defTextVector", s "defNumberVector", s "defSwitchVector", s "defLightVector", s "defBLOBVector",
           s "setTextVector", s "setNumberVector", s "setSwitchVector", s "setLightVector", s "setBLOBVector",
           s "delProperty", s "message", s "getProperties"],
      ∃ c, findClass t Generated.messageClasses = some c ∧ c.fromDevice = true := by
  decide +kernel

/-! non-vacuity -/

def exHist5 : List Op :=
  [.regCli 10, .regCli 11, .regCli 12,
   .send { fromClient := true, fromDevice := false, isEnableBlob := true, isBlob := false, device := some (s "D"), value := .also } (.cli 11),
   .send { fromClient := true, fromDevice := false, isEnableBlob := true, isBlob := false, device := some (s "D"), value := .only } (.cli 12)]

def exBlob : RMsg := { fromClient := false, fromDevice := true, isEnableBlob := false, isBlob := true,
                       device := some (s "D"), value := .never }
def exText : RMsg := { exBlob with isBlob := false }

example : WellFormed exHist5 := by show wellFormedRev _ = true; decide +kernel
example : (step (run exHist5) (.send exBlob (.dev 0))).2 = [.cli 11, .cli 12] := by decide +kernel
example : (step (run exHist5) (.send exText (.dev 0))).2 = [.cli 10, .cli 11] := by decide +kernel

end Indi.Rtr
