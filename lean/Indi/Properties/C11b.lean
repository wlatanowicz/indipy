/-
  C11 (continued) — junk of any length is transparent, and the receiver
  resynchronises after a truncated or corrupt element.
  The first is `session_stream2` of Proofs/Buf.lean as it stands (C02's theorem is its special case), the second
  rests on `session_corrupt` of Proofs/Buf2.lean.
-/
import Indi.Proofs.Buf2

namespace Indi.Buf

variable {M : Type}

/-- **junk never prevents or delays the valid messages around it**: as C02_abstract, but the
opener-free gaps between (before, after) the messages may have any length, also beyond the threshold -/
theorem C11_long_junk_transparent (parse : Str → ParseRes M) (tags : List Str) (threshold : Option Nat)
    (hA1 : ParserNeedsOpener parse tags) (hA2 : TagsOk tags)
    (segs : List (Seg M)) (final : Str) (hok : StreamOk2 parse tags threshold segs final)
    (pieces : List Str) (hpre : pieces.flatten <+: encode segs final) :
    (session parse tags threshold [] pieces).1.flatten =
      (segs.take (countDone segs pieces.flatten.length)).map (·.msg) :=
  (session_stream2 parse tags threshold hA1 hA2 final segs hok pieces hpre).1

/-- **resynchronisation**: with the threshold enabled, after a corrupt prefix `c` (nothing starting
inside it ever parses) every message of the valid stream that follows is delivered, in order, and
nothing else, once the whole stream has arrived — provided the valid stream alone is longer than
the threshold ("once enough further data has arrived") -/
theorem C11_resync (parse : Str → ParseRes M) (tags : List Str) (t : Nat)
    (hA1 : ParserNeedsOpener parse tags) (hA2 : TagsOk tags)
    (c : Str) (hc : Corrupt parse c)
    (segs : List (Seg M)) (final : Str) (hok : StreamOk2 parse tags (some t) segs final)
    (hlong : t < (encode segs final).length)
    (pieces : List Str) (hp : pieces.flatten = c ++ encode segs final) :
    (session parse tags (some t) [] pieces).1.flatten = segs.map (·.msg) := by
  by_cases hcn : c = []
  · subst hcn
    exact (session_whole parse tags (some t) hA1 hA2 final segs hok pieces hp).1
  · exact session_corrupt parse tags t hA1 hA2 c hc segs final hok hlong pieces [] 0
      (List.length_pos_iff.2 hcn) (Nat.le_refl _) (Nat.zero_le _) hp

end Indi.Buf
