/-
  C02 at the connection level: what the router is asked to do does not depend on how a client's byte stream was cut into
  reads.  Composition of the framing theorem at the stream of `to_string` outputs (`session_whole`, `session_final_nil` of
  Proofs/Buf.lean with `streamOk_segsOf` of Properties/Wire.lean, as in `C02_wire`) with the connection model
  (Model/Conn.lean; a run of receives is `run_recvs` of Proofs/Conn.lean).

  The router operations and the final router state are independent of the fragmentation for any server state whatever
  (`recv_fragmentation_independent_ops`, `_router`).  Equality of the whole final server state needs `hrep` of
  `recv_fragmentation_independent`; without it it fails (`recv_fragmentation_independent_state_counterexample`: duplicate
  connection ids, no read at all on the left against one empty read on the right).  `hrep` follows from `WF sv`
  (distinct ids: `_wf`) or from `ms ≠ []` (`_ne`).
-/
import Indi.Properties.Wire
import Indi.Properties.C18b

namespace Indi.Conn
open Indi Indi.Xml Indi.Spec.MsgValid Indi.Buf

/-- the router operations a list of events amounts to, from state `sv` -/
def opsOf (sv : Server) (evs : List Event) : List Rtr.Op := history (run sv evs).2

theorem session_whole_wire (ms : List Msg)
    (hv : ∀ m ∈ ms, valid Generated.registry m = true ∧ wireSafe m = true ∧ fits Generated.defaultThreshold (toString m))
    (pieces : List Str) (hflat : pieces.flatten = streamOf ms) :
    (session parseMsg tags Generated.defaultThreshold [] pieces).1.flatten = ms.map C03.canon ∧
      (session parseMsg tags Generated.defaultThreshold [] pieces).2 = [] := by
  -- `parseMsg` and `tags` of the connection model are `Xml.parseMsg` and `Xml.tagsOf` of the generated registry
  have hok := (streamOk_segsOf _ ms hv).toStreamOk2
  rw [← encode_segsOf ms] at hflat
  exact ⟨(session_whole _ _ _ (parseMsg_needsOpener Generated.registry) generated_tagsOk _ _ hok pieces hflat).1.trans
      (segsOf_map_msg true ms),
    session_final_nil _ _ _ (parseMsg_needsOpener Generated.registry) generated_tagsOk _ (finalOf_noLt ms) _ hok pieces hflat⟩

section
variable (sv : Server) (i : Nat) (c : Conn)
  (hc : conn? sv i = some c) (hs : c.serving = true) (hd : c.data = [])
  (ms : List Msg)
  (hv : ∀ m ∈ ms, valid Generated.registry m = true ∧ wireSafe m = true ∧ fits Generated.defaultThreshold (toString m))
  (pieces : List Str) (hflat : pieces.flatten = streamOf ms)
include hc hs hd hv hflat

theorem recv_whole :
    (run sv (pieces.map fun p => Event.recv i p none)).1.router = (routeAll i sv.router (ms.map C03.canon) 0 none).1 ∧
    opsOf sv (pieces.map fun p => Event.recv i p none) = (routeAll i sv.router (ms.map C03.canon) 0 none).2.1.ops ∧
    (pieces ≠ [] → (run sv (pieces.map fun p => Event.recv i p none)).1.conns = sv.conns.map (setData i [])) := by
  have h := run_recvs i pieces sv c hc hs
  obtain ⟨h1, h2⟩ := session_whole_wire ms hv pieces hflat
  rwa [hd, h1, h2] at h

/-- **fragmentation independence, end to end — the router operations**: a served connection with an empty receive buffer
is sent the serialisations of ANY list of valid wire-safe messages (each within the threshold), cut into ANY pieces; the
router is handed exactly the same operations, in the same order, as when the whole stream arrives in one read.  Nothing
is assumed of the rest of the server. -/
theorem recv_fragmentation_independent_ops :
    opsOf sv (pieces.map fun p => Event.recv i p none) = opsOf sv [Event.recv i (streamOf ms) none] := by
  rw [(recv_whole sv i c hc hs hd ms hv pieces hflat).2.1]
  exact (recv_whole sv i c hc hs hd ms hv [streamOf ms] (by simp)).2.1.symm

/-- … and the router ends in the same state -/
theorem recv_fragmentation_independent_router :
    (run sv (pieces.map fun p => Event.recv i p none)).1.router = (run sv [Event.recv i (streamOf ms) none]).1.router := by
  rw [(recv_whole sv i c hc hs hd ms hv pieces hflat).1]
  exact (recv_whole sv i c hc hs hd ms hv [streamOf ms] (by simp)).1.symm

/-- equal final server states need one hypothesis more, `hrep`: when there is no read at all (`pieces = []`, hence
`ms = []`), the single empty read of the right-hand side rewrites the buffer of EVERY connection record with id `i`, so
all of them must be empty already (automatic when ids are distinct) -/
theorem recv_fragmentation_independent_state
    (hrep : pieces = [] → ∀ c' ∈ sv.conns, c'.id = i → c'.data = []) :
    (run sv (pieces.map fun p => Event.recv i p none)).1 = (run sv [Event.recv i (streamOf ms) none]).1 := by
  apply server_eq (recv_fragmentation_independent_router sv i c hc hs hd ms hv pieces hflat)
  have hR := (recv_whole sv i c hc hs hd ms hv [streamOf ms] (by simp)).2.2 (by simp)
  simp only [List.map_cons, List.map_nil] at hR
  rw [hR]
  by_cases hne : pieces = []
  · subst hne
    exact (map_setData_self (hrep rfl)).symm
  · exact (recv_whole sv i c hc hs hd ms hv pieces hflat).2.2 hne

end

/-- without `hrep` the final server states can differ: a server holding two records with the same id (not reachable from
`{}` by admissible events, but not excluded by the other hypotheses), the second with a non-empty buffer; no message, no
read.  The left run leaves the server alone; the right run is one empty read, which rewrites the buffer of both
records. -/
theorem recv_fragmentation_independent_state_counterexample :
    ∃ (sv : Server) (i : Nat) (c : Conn) (ms : List Msg) (pieces : List Str),
      conn? sv i = some c ∧ c.serving = true ∧ c.data = [] ∧
      (∀ m ∈ ms, valid Generated.registry m = true ∧ wireSafe m = true ∧
        fits Generated.defaultThreshold (toString m)) ∧
      pieces.flatten = streamOf ms ∧
      (run sv (pieces.map fun p => Event.recv i p none)).1 ≠ (run sv [Event.recv i (streamOf ms) none]).1 := by
  refine ⟨{ conns := [{ id := 0 }, { id := 0, data := s "x" }] }, 0, { id := 0 }, [], [], rfl, rfl, rfl,
    fun m hm => (by cases hm), rfl, ?_⟩
  intro h
  have h2 := congrArg Server.conns h
  have hR := (recv_whole { conns := [{ id := 0 }, { id := 0, data := s "x" }] } 0 { id := 0 } rfl rfl rfl []
    (fun m hm => by cases hm) [streamOf []] (by simp)).2.2 (by simp)
  simp only [List.map_cons, List.map_nil] at hR
  rw [hR] at h2
  revert h2
  decide

/-- **fragmentation independence, end to end**: the router is handed the same operations
(`recv_fragmentation_independent_ops`) and the server ends in the same state.

`hrep` is needed for the second conjunct only, and only when there is no read at all; without it the conjunct fails
(`recv_fragmentation_independent_state_counterexample`).  It follows from distinct connection ids
(`recv_fragmentation_independent_wf`), and is vacuous when `pieces ≠ []`, in particular when `ms ≠ []`
(`recv_fragmentation_independent_ne`). -/
theorem recv_fragmentation_independent (sv : Server) (i : Nat) (c : Conn)
    (hc : conn? sv i = some c) (hs : c.serving = true) (hd : c.data = [])
    (ms : List Msg)
    (hv : ∀ m ∈ ms, valid Generated.registry m = true ∧ wireSafe m = true ∧ fits Generated.defaultThreshold (toString m))
    (pieces : List Str) (hflat : pieces.flatten = streamOf ms)
    (hrep : pieces = [] → ∀ c' ∈ sv.conns, c'.id = i → c'.data = []) :
    opsOf sv (pieces.map fun p => Event.recv i p none) = opsOf sv [Event.recv i (streamOf ms) none] ∧
    (run sv (pieces.map fun p => Event.recv i p none)).1 = (run sv [Event.recv i (streamOf ms) none]).1 :=
  ⟨recv_fragmentation_independent_ops sv i c hc hs hd ms hv pieces hflat,
   recv_fragmentation_independent_state sv i c hc hs hd ms hv pieces hflat hrep⟩

/-- both conjuncts without `hrep` for every well-formed server (`WF`, an invariant of all admissible events from `{}`:
`wf_init`, `wf_step`), whose connection ids are distinct -/
theorem recv_fragmentation_independent_wf (sv : Server) (i : Nat) (c : Conn) (hwf : WF sv)
    (hc : conn? sv i = some c) (hs : c.serving = true) (hd : c.data = [])
    (ms : List Msg)
    (hv : ∀ m ∈ ms, valid Generated.registry m = true ∧ wireSafe m = true ∧ fits Generated.defaultThreshold (toString m))
    (pieces : List Str) (hflat : pieces.flatten = streamOf ms) :
    opsOf sv (pieces.map fun p => Event.recv i p none) = opsOf sv [Event.recv i (streamOf ms) none] ∧
    (run sv (pieces.map fun p => Event.recv i p none)).1 = (run sv [Event.recv i (streamOf ms) none]).1 :=
  recv_fragmentation_independent sv i c hc hs hd ms hv pieces hflat
    (fun _ c' hc' hi => by rw [conn?_unique hwf.1 hc c' hc' hi]; exact hd)

/-- both conjuncts without `hrep` for every server whatsoever, as soon as at least one message is sent -/
theorem recv_fragmentation_independent_ne (sv : Server) (i : Nat) (c : Conn)
    (hc : conn? sv i = some c) (hs : c.serving = true) (hd : c.data = [])
    (ms : List Msg) (hne : ms ≠ [])
    (hv : ∀ m ∈ ms, valid Generated.registry m = true ∧ wireSafe m = true ∧ fits Generated.defaultThreshold (toString m))
    (pieces : List Str) (hflat : pieces.flatten = streamOf ms) :
    opsOf sv (pieces.map fun p => Event.recv i p none) = opsOf sv [Event.recv i (streamOf ms) none] ∧
    (run sv (pieces.map fun p => Event.recv i p none)).1 = (run sv [Event.recv i (streamOf ms) none]).1 :=
  recv_fragmentation_independent sv i c hc hs hd ms hv pieces hflat
    (fun hp => by
      subst hp
      exact absurd (streamOf_eq_nil (by simpa using hflat.symm)) hne)

/-! ### the hypotheses are satisfiable, and the conclusion says something -/

/-- a server with one device and two connected clients -/
def exampleServer : Server :=
  (step (step (step {} (.device { id := 7, name := s "D" })).1 (.connect 0 true)).1 (.connect 1 false)).1

example : WF exampleServer :=
  wf_step _ _ (wf_step _ _ (wf_step _ _ wf_init trivial) (by unfold admissible; decide +kernel)) (by unfold admissible; decide +kernel)

def exampleStream : Str := streamOf [exampleMsg, exampleMsg]
def examplePieces : List Str :=
  [exampleStream.take 40, (exampleStream.drop 40).take 100, (exampleStream.drop 140).take 102]

/-- two messages for the device, cut inside the first element, inside the declaration of the second and before the
final newline: the router is asked to route both, in order, exactly as for one read -/
example :
    opsOf exampleServer (examplePieces.map fun p => Event.recv 0 p none) =
      opsOf exampleServer [Event.recv 0 exampleStream none] ∧
    (opsOf exampleServer [Event.recv 0 exampleStream none]).length = 2 := by
  have hv : ∀ m ∈ [exampleMsg, exampleMsg], valid Generated.registry m = true ∧ wireSafe m = true ∧
      fits Generated.defaultThreshold (toString m) := exampleMsgs_ok
  have hc : conn? exampleServer 0 = some { id := 0 } := by decide +kernel
  refine ⟨recv_fragmentation_independent_ops exampleServer 0 _ hc rfl rfl _ hv examplePieces (by decide +kernel), ?_⟩
  -- the single read goes through the theorem too: only the routing of the two normal forms is evaluated
  rw [show opsOf exampleServer [Event.recv 0 exampleStream none] = _ from
    (recv_whole exampleServer 0 _ hc rfl rfl _ hv [exampleStream] (by simp [exampleStream])).2.1]
  decide +kernel

end Indi.Conn
