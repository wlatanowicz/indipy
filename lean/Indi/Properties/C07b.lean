/-
  C07: the driver model agrees with the history specification of the enabled switches — after ANY operation sequence the
  switches of groups and properties are exactly what the last assignments say (`Spec.Dev.flagsHold`), whatever else happened
  (client messages, values, states, element-level enabling, operations that raise).
  The proof works on the view `flagsOf` (the switches only): by the run specifications of Proofs/DevOps.lean every
  operation but the two that set a switch leaves the view alone (`Steps.flags`, from `Steps.rel`), so the model's run is a
  fold of `stepF` over the view (`runOps_flags`), and `holdF` is the specification read on views.
-/
import Indi.Proofs.DevA

namespace Indi.Dev
open Indi Indi.Spec.Dev

/-- the device after a sequence of operations (exceptions leave whatever state the operation reached) -/
def runOps (d : Device) (ops : List Op) : Device := ops.foldl (fun d op => (step d op).dev) d

abbrev Flags := List (Bool × List Bool)

def flagsOf (d : Device) : Flags := d.groups.map fun g => (g.enabled, g.vecs.map (·.enabled))

def setVecFlag (f : Flags) (gi vi : Nat) (b : Bool) : Flags :=
  f.modify gi fun p => (p.1, p.2.set vi b)

def setGroupFlag (f : Flags) (gi : Nat) (b : Bool) : Flags :=
  f.modify gi fun p => (b, p.2)

def stepF (f : Flags) : Op → Flags
  | .enableVec g v b => setVecFlag f g v b
  | .enableGroup g b => setGroupFlag f g b
  | _ => f

theorem flagsOf_setVec (d : Device) (gi vi : Nat) (v : Vec) :
    flagsOf (setVec d gi vi v) = setVecFlag (flagsOf d) gi vi v.enabled := by
  simp only [flagsOf, setVec, setVecFlag]
  apply List.ext_getElem?
  intro i
  simp only [List.getElem?_map, List.getElem?_modify]
  cases h : d.groups[i]? with
  | none => simp
  | some g =>
    by_cases hi : gi = i
    · simp [hi, List.map_set]
    · simp [hi]

theorem setVecFlag_none (d : Device) (gi vi : Nat) (b : Bool) (hg : getVec d gi vi = none) :
    setVecFlag (flagsOf d) gi vi b = flagsOf d := by
  rw [setVecFlag]
  apply modify_id
  intro p hp
  simp only [getVec] at hg
  simp only [flagsOf, List.getElem?_map] at hp
  cases hgg : d.groups[gi]? with
  | none => simp [hgg] at hp
  | some g' =>
    simp only [hgg, Option.map_eq_none_iff] at hg
    simp only [hgg, Option.map_some, Option.some.injEq] at hp
    subst hp
    simp only
    congr 1
    apply List.set_eq_of_length_le
    simp only [List.length_map]
    exact List.getElem?_eq_none_iff.mp hg

theorem refreshVec_enabled (v : Vec) : (refreshVec v).enabled = v.enabled := rfl

theorem putBools_enabled (v : Vec) (bs : List Bool) : (putBools v bs).enabled = v.enabled := rfl

theorem Steps.flags {E} {d d' : Device} {ms : List Msg} (h : Steps E d ms d')
    (hE : ∀ gi vi v v1, E gi vi v v1 → v1.enabled = v.enabled) : flagsOf d' = flagsOf d :=
  (h.rel (R := fun _ _ v v' => v'.enabled = v.enabled) (fun _ _ _ => rfl) (fun _ _ _ _ _ h1 h2 => h2.trans h1) hE
    fun _ _ _ => rfl).proj_eq (·.enabled) fun _ _ _ _ hr => hr

theorem fromClient_flags (d : Device) (m : Msg) : flagsOf (fromClient d m).dev = flagsOf d := by
  rcases fromClient_shape d m with ⟨L, h⟩ | ⟨gi, vi, h⟩ | h
  · -- definitions are sent: no edit
    rw [h]; exact (sendDefs_steps NoEdit L d).flags fun _ _ _ _ h => h.elim
  · -- a `new*Vector` is applied: values are written
    rw [h]; exact (applyChildren_wrun gi vi _ d).steps.flags fun _ _ _ _ h => h.edit.enabled
  · -- the message is ignored
    rw [h]

theorem enableVec_flags (d : Device) (gi vi : Nat) (b : Bool) :
    flagsOf (enableVec d gi vi b).dev = setVecFlag (flagsOf d) gi vi b := by
  unfold enableVec
  split
  · rename_i hg
    exact (setVecFlag_none d gi vi b hg).symm
  · rw [(announce_steps NoEdit _ gi vi).flags fun _ _ _ _ h => h.elim, flagsOf_setVec]

/-- the raising case of `enableVec`: no such vector, `KeyError`, device unchanged -/
theorem enableVec_none (d : Device) (gi vi : Nat) (b : Bool) (hg : getVec d gi vi = none) :
    (enableVec d gi vi b).exc = some .keyError ∧ (enableVec d gi vi b).dev = d := by
  unfold enableVec
  rw [hg]
  exact ⟨rfl, rfl⟩

theorem enableGroup_flags (d : Device) (gi : Nat) (b : Bool) :
    flagsOf (enableGroup d gi b).dev = setGroupFlag (flagsOf d) gi b := by
  unfold enableGroup
  split
  · rename_i hg
    symm
    apply modify_id
    intro p hp
    simp [flagsOf, hg] at hp
  · rename_i g hg
    dsimp only
    rw [(announceAll_steps NoEdit gi _ _).flags fun _ _ _ _ h => h.elim]
    simp only [flagsOf, setGroupFlag]
    apply List.ext_getElem?
    intro i
    simp only [List.getElem?_map, List.getElem?_modify, List.getElem?_set]
    by_cases hi : gi = i
    · subst hi
      obtain ⟨hlt, rfl⟩ := List.getElem?_eq_some_iff.mp hg
      simp [hlt]
    · simp [hi]

theorem step_flags (d : Device) (op : Op) : flagsOf (step d op).dev = stepF (flagsOf d) op := by
  cases op with
  | assign a v => exact (assign_wrun d a v).steps.flags fun _ _ _ _ h => h.edit.edit.enabled
  | setValue a v => exact (setValue_wrun d a v).steps.flags fun _ _ _ _ h => h.edit.edit.enabled
  | state g v st => exact (setState_wrun d g v st).steps.flags fun _ _ _ _ h => h.edit.enabled
  | enableVec g v b => exact enableVec_flags d g v b
  | enableGroup g b => exact enableGroup_flags d g b
  | enableElem a b => exact (enableElem_steps d a b).flags fun _ _ _ _ h => h.edit.enabled
  | client m => exact fromClient_flags d m

theorem runOps_flags (d : Device) (ops : List Op) : flagsOf (runOps d ops) = ops.foldl stepF (flagsOf d) := by
  induction ops generalizing d with
  | nil => rfl
  | cons op rest ih =>
    simp only [runOps, List.foldl_cons] at ih ⊢
    rw [ih, step_flags]

/-- `flagsHold`, stated on views -/
def holdF (f : Flags) (ops : List Op) (o : Flags) : Prop :=
  o.length = f.length ∧
  ∀ gi e vs e' vs', f[gi]? = some (e, vs) → o[gi]? = some (e', vs') →
    e' = lastGroupFlag e gi ops ∧ vs'.length = vs.length ∧
    ∀ vi b b', vs[vi]? = some b → vs'[vi]? = some b' → b' = lastVecFlag b gi vi ops

theorem holdF_nil (f : Flags) : holdF f [] f := by
  refine ⟨rfl, fun gi e vs e' vs' h0 h1 => ?_⟩
  rw [h0] at h1
  cases h1
  exact ⟨rfl, rfl, fun vi b b' hb hb' => by rw [hb] at hb'; cases hb'; rfl⟩

theorem stepF_length (f : Flags) (op : Op) : (stepF f op).length = f.length := by
  cases op <;> simp [stepF, setVecFlag, setGroupFlag]

theorem holdF_cons (f : Flags) (op : Op) (rest : List Op) (o : Flags)
    (h : holdF (stepF f op) rest o) : holdF f (op :: rest) o := by
  obtain ⟨hl, h⟩ := h
  refine ⟨by rw [hl, stepF_length], ?_⟩
  intro gi e vs e' vs' h0 h1
  cases op with
  | enableVec g v b =>
    have hs : (stepF f (.enableVec g v b))[gi]? = some (e, if g = gi then vs.set v b else vs) := by
      simp only [stepF, setVecFlag, List.getElem?_modify, h0]
      by_cases hg : g = gi <;> simp [hg]
    obtain ⟨h2, h3, h4⟩ := h gi _ _ _ _ hs h1
    refine ⟨h2, ?_, ?_⟩
    · rw [h3]; split <;> simp
    · intro vi b0 b' hb hb'
      have hv : (if g = gi then vs.set v b else vs)[vi]? = some (if (g = gi && v = vi) = true then b else b0) := by
        by_cases hg : g = gi
        · by_cases hv : v = vi
          · subst hv
            simp [hg, (List.getElem?_eq_some_iff.mp hb).1]
          · simp [hg, hv, hb]
        · simp [hg, hb]
      exact h4 vi _ _ hv hb'
  | enableGroup g b =>
    have hs : (stepF f (.enableGroup g b))[gi]? = some (if g = gi then b else e, vs) := by
      simp only [stepF, setGroupFlag, List.getElem?_modify, h0]
      by_cases hg : g = gi <;> simp [hg]
    exact h gi _ _ _ _ hs h1
  | _ => exact h gi _ _ _ _ h0 h1

theorem holdF_run (f : Flags) (ops : List Op) : holdF f ops (ops.foldl stepF f) := by
  induction ops generalizing f with
  | nil => exact holdF_nil f
  | cons op rest ih => exact holdF_cons f op rest _ (ih (stepF f op))

theorem flagsHold_of_holdF (d : Device) (ops : List Op) (o : Device)
    (h : holdF (flagsOf d) ops (flagsOf o)) : flagsHold d ops o = true := by
  obtain ⟨hl, h⟩ := h
  simp only [flagsOf, List.length_map] at hl
  unfold flagsHold
  simp only [Bool.and_eq_true, beq_iff_eq, List.all_eq_true, List.mem_range]
  refine ⟨hl, ?_⟩
  intro gi hgi
  have h0 : d.groups[gi]? = some d.groups[gi] := List.getElem?_eq_getElem hgi
  have h1 : o.groups[gi]? = some (o.groups[gi]'(hl ▸ hgi)) := List.getElem?_eq_getElem (hl ▸ hgi)
  rw [h0, h1]
  dsimp only
  obtain ⟨h2, h3, h4⟩ := h gi _ _ _ _
    (by simp only [flagsOf, List.getElem?_map, h0]; rfl) (by simp only [flagsOf, List.getElem?_map, h1]; rfl)
  simp only [List.length_map] at h3
  simp only [Bool.and_eq_true, beq_iff_eq, List.all_eq_true, List.mem_range]
  refine ⟨⟨h2, h3⟩, ?_⟩
  intro vi hvi
  have h5 : d.groups[gi].vecs[vi]? = some d.groups[gi].vecs[vi] := List.getElem?_eq_getElem hvi
  have h6 : (o.groups[gi]'(hl ▸ hgi)).vecs[vi]? = some ((o.groups[gi]'(hl ▸ hgi)).vecs[vi]'(h3 ▸ hvi)) :=
    List.getElem?_eq_getElem (h3 ▸ hvi)
  rw [h5, h6]
  dsimp only
  simp only [beq_iff_eq]
  exact h4 vi _ _ (by simp only [List.getElem?_map, h5]; rfl) (by simp only [List.getElem?_map, h6]; rfl)

/-- **C07 (enabled switches)**: the model's switches are a function of the history alone -/
theorem flags_follow_history (d : Device) (ops : List Op) : flagsHold d ops (runOps d ops) = true := by
  apply flagsHold_of_holdF
  rw [runOps_flags]
  exact holdF_run _ ops

namespace Example

def el (n : String) (v : String) : Elem := { d := { name := s n, label := s n }, value := .text (s v), enabled := true }

def tvec (n : String) (en : Bool) (es : List Elem) : Vec :=
  { name := s n, label := s n, kind := .text, perm := some (s "rw"), timeout := some (s "0"), rule := none,
    state := s "Idle", enabled := en, elems := es }

def dev : Device :=
  { name := s "D",
    groups := [ { name := s "G0", enabled := true, vecs := [tvec "A" true [el "a" "x"], tvec "B" true [el "b" "y", el "c" "z"]] },
                { name := s "G1", enabled := false, vecs := [tvec "C" true [el "d" "w"]] } ] }

def getProps : Msg := { tag := s "getProperties", fields := [(s "name", none)], children := none }

/-- a group toggle around a vector toggle, writes, a client request, and out-of-range addresses -/
def ops : List Op :=
  [ .enableGroup 0 false, .enableVec 0 1 false, .assign ⟨0, 1, 0⟩ (.text (s "q")), .enableGroup 0 true,
    .client getProps, .enableVec 1 0 false, .enableVec 5 5 true, .enableVec 0 9 false, .enableGroup 7 false,
    .setValue ⟨1, 0, 0⟩ (.text (s "r")), .state 0 0 (some (s "Busy")), .enableElem ⟨0, 1, 1⟩ false,
    .enableVec 1 0 true, .enableVec 1 0 false, .enableGroup 1 true ]

example : flagsOf (runOps dev ops) = [(true, [true, false]), (true, [false])] := by decide +kernel

example : flagsHold dev ops (runOps dev ops) = true := by decide +kernel

/-- the specification discriminates: the untouched initial device does not satisfy it -/
example : flagsHold dev ops dev = false := by decide +kernel

/-- neither does the run of a history without the last vector toggle -/
example : flagsHold dev ops (runOps dev (ops.take 13)) = false := by decide +kernel

/-- the operations in between did something (values, state, element switches changed) -/
example : (runOps dev ops != runOps dev [.enableVec 0 1 false, .enableVec 1 0 false, .enableGroup 1 true]) = true := by
  decide +kernel

example : (enableVec dev 5 5 true).exc = some .keyError ∧ (enableVec dev 5 5 true).dev = dev := by decide +kernel

end Example

end Indi.Dev
