/-
  The wire format, end to end, at the character level:

  * C03 (bytes): `from_string (to_string m)` is `from_xml (to_xml m)` — so the element-level theorems of
    Properties/C03.lean hold for the very bytes on the wire, and the bytes are identical from the second
    serialisation on.
  * C02 (concrete): the library's own serialisations are admissible encodings for the library's own parser, so the
    abstract framing theorem applies to every stream of `to_string` outputs under every fragmentation.

  `admissible_lay` puts what holds of every layout (Proofs/XmlLay.lean), `fromXml_spelled` and `C03.msg_canon`
  together once, for the library's serialisation (`serElem` is `layElem` of the library's layout, Proofs/XmlRT.lean)
  and for the foreign spellings of Properties/Spellings.lean.
-/
import Indi.Proofs.XmlRT
import Indi.Proofs.SpellMsg
import Indi.Spec.BufRun
import Indi.Properties.C03
import Indi.Properties.C02

namespace Indi.Xml
open Indi Indi.Spec.MsgValid Indi.Buf Indi.Xml.Doc

/-- a message whose strings XML can carry (`elemOk`, Spec/Xml.lean): its tag, its children's tags and the attribute names
are ASCII names, values are over XML `Char`, text has no carriage return.  The conditions on names are part of the
hypothesis, no theorem derives them from `valid`; `wireNames_generated` below checks only that the message tags of the
regenerated table are such names. -/
def wireSafe (m : Msg) : Bool := elemOk (toXml m)

theorem parseDoc_toString (m : Msg) (hs : wireSafe m = true) : parseDoc (toString m) = .ok (toXml m) :=
  parseDoc_wrapped (toXml m) hs _ _ generated_prefix_ok generated_suffix_ok

/-- **C03, bytes**: parsing the bytes `to_string` writes is parsing the element `to_xml` builds -/
theorem fromString_toString (reg : Registry) (m : Msg) (hs : wireSafe m = true) :
    fromString reg (toString m) = fromXml reg (toXml m) := by
  unfold fromString
  rw [parseDoc_toString m hs]

theorem textOk_canonVal (v : Option Str) (h : textOk (v.getD []) = true) : textOk ((C03.canonVal v).getD []) = true := by
  cases v with
  | none => exact h
  | some t =>
    simp only [C03.canonVal]
    split
    · rfl
    · simp only [Option.getD_some] at h ⊢
      rw [textOk_iff] at h ⊢
      exact fun c hc => h c (Num.mem_pyStrip hc)

theorem elem1Ok_canonPart (p : Part) (h : elem1Ok (partToXml p) = true) :
    elem1Ok (partToXml (C03.canonPart p)) = true := by
  obtain ⟨ht, ha, hx⟩ := (elem1Ok_iff _).mp h
  rw [C03.partToXml_canonPart]
  exact (elem1Ok_iff _).mpr ⟨ht, ha, textOk_canonVal _ hx⟩

/-- normalisation keeps a message wire-safe (trimming only removes characters) -/
theorem wireSafe_canon (m : Msg) (hs : wireSafe m = true) : wireSafe (C03.canon m) = true := by
  obtain ⟨tag, fields, ch⟩ := m
  simp only [wireSafe, elemOk_iff, toXml, C03.canon, C03.presentAttrs_canonFields, C03.valueOf_canonFields] at hs ⊢
  obtain ⟨ht, ha, hx, hk⟩ := hs
  refine ⟨ht, ha, textOk_canonVal _ hx, ?_⟩
  cases ch with
  | none => rfl
  | some ps =>
    simp only [Option.map_some, Option.getD_some, List.all_map, List.all_eq_true, Function.comp] at hk ⊢
    exact fun p hp => elem1Ok_canonPart p (hk p hp)

/-- **C03, bytes, fixed point**: the second and the third serialisation are identical byte for byte -/
theorem toString_fixed_point (m m' m'' : Msg) (h : valid Generated.registry m = true) (hs : wireSafe m = true)
    (hblank : noBlankText m = true)
    (h1 : fromString Generated.registry (toString m) = .ok m')
    (h2 : fromString Generated.registry (toString m') = .ok m'') :
    toString m'' = toString m' := by
  rw [fromString_toString _ m hs] at h1
  have hc := C03.msg_canon C03.regW_generated h
  have hm' : m' = C03.canon m := by
    rw [hc] at h1
    exact (Except.ok.inj h1).symm
  have hs' : wireSafe m' = true := hm' ▸ wireSafe_canon m hs
  rw [fromString_toString _ m' hs', C03_fixed_point m m' h hblank h1] at h2
  rw [Except.ok.inj h2]

/-- the parser parameter of the buffer model, instantiated with the character-level parser:
`ET.fromstring` raising `ParseError` / `from_string` raising / a message -/
def parseMsg (reg : Registry) (x : Str) : ParseRes Msg :=
  match parseDoc x with
  | .ok e =>
    match fromXml reg e with
    | .ok m => .msg m
    | .error _ => .invalid
  | _ => .notXml

def tagsOf (reg : Registry) : List Str := reg.messages.map (·.tag)

theorem tag_registered {reg : Registry} {x : Elem} {m : Msg} (h : fromXml reg x = .ok m) : x.tag ∈ tagsOf reg := by
  obtain ⟨c, _, hc, _, _⟩ := fromXml_inv h
  exact List.mem_map.2 ⟨c, C03.findClass_spec hc⟩

/-- (A1) for the real parser: whatever parses as a message spells out the opener of a registered tag -/
theorem parseMsg_needsOpener (reg : Registry) : ParserNeedsOpener (parseMsg reg) (tagsOf reg) := by
  intro x m h
  unfold parseMsg at h
  split at h
  · rename_i e he
    split at h
    · rename_i m' hm
      obtain ⟨i, hi⟩ := parseDoc_opener x e he
      exact ⟨i, List.any_eq_true.2 ⟨e.tag, tag_registered hm, hi⟩⟩
    · cases h
  · cases h

/-- every layout of the element `to_xml` builds for a valid, wire-safe message is an admissible encoding of its normal
form: the library's own serialisation and every foreign spelling are instances -/
theorem admissible_lay {L : Lay} (hL : L.Ok) (m : Msg) (hv : valid Generated.registry m = true) (hs : wireSafe m = true) :
    Admissible (parseMsg Generated.registry) (tagsOf Generated.registry) (layElem L (toXml m)) (C03.canon m) := by
  have hc := C03.msg_canon C03.regW_generated hv
  refine ⟨?_, ?_, fun k hk => ?_, layElem_ending hL (toXml m) hs⟩
  · exact List.any_eq_true.2
      ⟨_, tag_registered hc, List.isPrefixOf_iff_prefix.mpr (layElem_starts L (toXml m))⟩
  · simp only [parseMsg, parseDoc_layElem hL (toXml m) hs, fromXml_spelled L.toStyle hL.style m hv, hc]
  · have := parseDoc_lay_take hL (toXml m) hs k hk
    unfold parseMsg
    split
    · rename_i e he
      exact absurd he (this e)
    · rfl

/-- the element `to_string` writes for a valid, wire-safe message is an admissible encoding of its normal form -/
theorem admissible_serElem (m : Msg) (h : valid Generated.registry m = true) (hs : wireSafe m = true) :
    Admissible (parseMsg Generated.registry) (tagsOf Generated.registry) (serElem (toXml m)) (C03.canon m) := by
  rw [serElem_eq_lay]
  exact admissible_lay libLay_ok m h hs

/-- the stream of `to_string` outputs of a list of messages, as segments: the gap before each element is the XML
declaration (preceded by the previous message's trailing newline), the body the element itself -/
def segsOf : Bool → List Msg → List (Seg Msg)
  | _, [] => []
  | first, m :: rest =>
    { gap := (if first then [] else Generated.xmlSuffix) ++ Generated.xmlPrefix, body := serElem (toXml m), msg := C03.canon m }
      :: segsOf false rest

def streamOf (ms : List Msg) : Str := (ms.map toString).flatten

theorem streamOf_cons (m : Msg) (ms : List Msg) : streamOf (m :: ms) = toString m ++ streamOf ms := by
  simp [streamOf]

theorem encode_segsOf_false (ms : List Msg) :
    encode (segsOf false ms) Generated.xmlSuffix = Generated.xmlSuffix ++ streamOf ms := by
  induction ms with
  | nil => simp [segsOf, encode, streamOf]
  | cons m rest ih =>
    simp only [segsOf, encode, ih, streamOf_cons, toString, Bool.false_eq_true, if_false, List.append_assoc]

/-- what follows the last element of the stream: its trailing newline, if there is an element at all -/
def finalOf : List Msg → Str
  | [] => []
  | _ :: _ => Generated.xmlSuffix

theorem encode_segsOf (ms : List Msg) : encode (segsOf true ms) (finalOf ms) = streamOf ms := by
  cases ms with
  | nil => rfl
  | cons m rest =>
    simp only [segsOf, encode, finalOf, encode_segsOf_false, streamOf_cons, toString, if_true, List.nil_append,
      List.append_assoc]

theorem noOpener_of_noOpenerB (tags : List Str) (g : Str) (h : noOpenerB tags g = true) : NoOpener tags g := by
  intro i
  by_cases hi : i ≤ g.length
  · simp only [noOpenerB, hasOpenerB, Bool.not_eq_true', List.any_eq_false, List.mem_range] at h
    have := h i (by omega)
    simpa using this
  · rw [List.drop_eq_nil_of_le (by omega)]
    exact startsKnown_nil tags

theorem tagsOf_generated : tagsOf Generated.registry = Generated.messageClasses.map (·.tag) := rfl

theorem gap_next_noOpener : NoOpener (tagsOf Generated.registry) (Generated.xmlSuffix ++ Generated.xmlPrefix) :=
  noOpener_of_noOpenerB _ _ (by decide +kernel)

theorem gap_first_noOpener : NoOpener (tagsOf Generated.registry) Generated.xmlPrefix :=
  NoOpener_suffix _ _ _ (List.suffix_append ..) gap_next_noOpener

theorem gap_final_noOpener : NoOpener (tagsOf Generated.registry) Generated.xmlSuffix :=
  NoOpener_of_prefix _ _ _ (List.prefix_append ..) gap_next_noOpener

/-- the tags of the regenerated class table are ASCII names -/
theorem wireNames_generated : (tagsOf Generated.registry).all isName = true := by
  decide +kernel

theorem toString_length (m : Msg) :
    (toString m).length = Generated.xmlPrefix.length + (serElem (toXml m)).length + Generated.xmlSuffix.length := by
  simp only [toString, List.length_append]

theorem segsOf_ok (threshold : Option Nat) : ∀ (first : Bool) (ms : List Msg),
    (∀ m ∈ ms, valid Generated.registry m = true ∧ wireSafe m = true ∧ fits threshold (toString m)) →
    ∀ sg ∈ segsOf first ms,
      Admissible (parseMsg Generated.registry) (tagsOf Generated.registry) sg.body sg.msg ∧
        NoOpener (tagsOf Generated.registry) sg.gap ∧ fits threshold (sg.gap ++ sg.body)
  | _, [], _, sg, hsg => by simp [segsOf] at hsg
  | first, m :: rest, hv, sg, hsg => by
    simp only [segsOf, List.mem_cons] at hsg
    rcases hsg with rfl | hsg
    · obtain ⟨h1, h2, h3⟩ := hv m (List.mem_cons_self ..)
      refine ⟨admissible_serElem m h1 h2, ?_, ?_⟩
      · cases first
        · exact gap_next_noOpener
        · exact gap_first_noOpener
      · refine fits_mono threshold _ _ h3 ?_
        rw [toString_length]
        cases first <;> simp <;> omega
    · exact segsOf_ok threshold false rest (fun m' hm' => hv m' (List.mem_cons_of_mem _ hm')) sg hsg

theorem streamOk_segsOf (threshold : Option Nat) (ms : List Msg)
    (hv : ∀ m ∈ ms, valid Generated.registry m = true ∧ wireSafe m = true ∧ fits threshold (toString m)) :
    StreamOk (parseMsg Generated.registry) (tagsOf Generated.registry) threshold (segsOf true ms) (finalOf ms) := by
  refine ⟨segsOf_ok threshold true ms hv, ?_⟩
  cases ms with
  | nil => exact ⟨fun i => by rw [finalOf, List.drop_nil]; exact startsKnown_nil _, fits_nil threshold⟩
  | cons m rest =>
    refine ⟨gap_final_noOpener, fits_mono threshold _ _ (hv m List.mem_cons_self).2.2 ?_⟩
    rw [toString_length]
    exact Nat.le_add_left _ _

theorem finalOf_noLt : ∀ ms : List Msg, '<' ∉ finalOf ms
  | [] => List.not_mem_nil
  | _ :: _ => show '<' ∉ Generated.xmlSuffix by decide

theorem toString_ne_nil (m : Msg) : toString m ≠ [] := by
  have : Generated.xmlPrefix ≠ [] := by decide
  simp [toString, this]

theorem streamOf_eq_nil {ms : List Msg} (h : streamOf ms = []) : ms = [] := by
  cases ms with
  | nil => rfl
  | cons m rest =>
    rw [streamOf_cons] at h
    exact absurd (List.append_eq_nil_iff.1 h).1 (toString_ne_nil m)

/-- **C02, concrete**: feed the concatenated `to_string` outputs of ANY list of valid wire-safe messages, each no longer
than the threshold (any length when it is disabled), in ANY pieces: what has been delivered after the pieces fed so far
is exactly the normal forms of the messages whose last character has arrived, in order, each once -/
theorem C02_wire (threshold : Option Nat) (ms : List Msg)
    (hv : ∀ m ∈ ms, valid Generated.registry m = true ∧ wireSafe m = true ∧ fits threshold (toString m))
    (pieces : List Str) (hpre : pieces.flatten <+: streamOf ms) :
    (session (parseMsg Generated.registry) (tagsOf Generated.registry) threshold [] pieces).1.flatten =
      ((segsOf true ms).take (countDone (segsOf true ms) pieces.flatten.length)).map (·.msg) :=
  C02_abstract _ _ threshold (parseMsg_needsOpener Generated.registry) generated_tagsOk _ _
    (streamOk_segsOf threshold ms hv) pieces (encode_segsOf ms ▸ hpre)

theorem segsOf_map_msg : ∀ (first : Bool) (ms : List Msg), (segsOf first ms).map (·.msg) = ms.map C03.canon
  | _, [] => rfl
  | _, m :: rest => by rw [segsOf, List.map_cons, segsOf_map_msg false rest, List.map_cons]

/-- **C02, concrete**, over the messages: what has been delivered is the list of normal forms of the first `k`
messages, `k` the number of messages whose last character has arrived -/
theorem C02_wire' (threshold : Option Nat) (ms : List Msg)
    (hv : ∀ m ∈ ms, valid Generated.registry m = true ∧ wireSafe m = true ∧ fits threshold (toString m))
    (pieces : List Str) (hpre : pieces.flatten <+: streamOf ms) :
    (session (parseMsg Generated.registry) (tagsOf Generated.registry) threshold [] pieces).1.flatten =
      (ms.take (countDone (segsOf true ms) pieces.flatten.length)).map C03.canon := by
  rw [C02_wire threshold ms hv pieces hpre, List.map_take, segsOf_map_msg, List.map_take]

/-! ### non-vacuity: a concrete valid, wire-safe message with text that needs escaping -/

def exampleMsg : Msg :=
  { tag := s "newTextVector",
    fields := [(s "device", some (s "D")), (s "name", some (s "P")), (s "timestamp", none)],
    children := some [{ tag := s "oneText", fields := [(s "name", some (s "n")), (s "value", some (s "a<b&c é"))] }] }

theorem valid_exampleMsg : valid Generated.registry exampleMsg = true := by decide +kernel
theorem wireSafe_exampleMsg : wireSafe exampleMsg = true := by decide +kernel

theorem exampleMsgs_ok : ∀ m ∈ [exampleMsg, exampleMsg], valid Generated.registry m = true ∧ wireSafe m = true ∧
    fits (some 2048) (toString m) := by
  intro m hm
  simp only [List.mem_cons, List.not_mem_nil, or_false, or_self] at hm
  subst hm
  exact ⟨valid_exampleMsg, wireSafe_exampleMsg, by simp only [fits]; decide +kernel⟩

example : valid Generated.registry exampleMsg = true := valid_exampleMsg
example : wireSafe exampleMsg = true := wireSafe_exampleMsg
example : noBlankText exampleMsg = true := by decide +kernel

/-- the bytes on the wire (the non-ASCII `é` leaves as a character reference) -/
example : toString exampleMsg =
    s "<?xml version=\"1.0\"?>\n<newTextVector device=\"D\" name=\"P\"><oneText name=\"n\">a&lt;b&amp;c &#233;</oneText></newTextVector>\n" := by
  decide +kernel

theorem except_ok_of_toOption {ε α : Type} {x : Except ε α} {a : α} (h : x.toOption = some a) : x = .ok a := by
  cases x with
  | error e => cases h
  | ok b => cases h; rfl

/-- the character-level parser, run by the kernel on those bytes, gives the normal form -/
example : fromString Generated.registry (toString exampleMsg) = .ok (C03.canon exampleMsg) :=
  except_ok_of_toOption (by decide +kernel)

/-- the same, through the theorems -/
example : fromString Generated.registry (toString exampleMsg) = .ok (C03.canon exampleMsg) := by
  rw [fromString_toString _ _ wireSafe_exampleMsg]
  exact C03.msg_canon C03.regW_generated valid_exampleMsg

/-- framing on a two-message stream cut inside the first element, inside the declaration of the second,
and before the final newline -/
example :
    (session (parseMsg Generated.registry) (tagsOf Generated.registry) (some 2048) []
      [(streamOf [exampleMsg, exampleMsg]).take 40,
       ((streamOf [exampleMsg, exampleMsg]).drop 40).take 100,
       ((streamOf [exampleMsg, exampleMsg]).drop 140).take 101]).1.flatten =
      [C03.canon exampleMsg, C03.canon exampleMsg] := by
  rw [C02_wire' (some 2048) [exampleMsg, exampleMsg] exampleMsgs_ok _ (by decide +kernel)]
  decide +kernel

end Indi.Xml
