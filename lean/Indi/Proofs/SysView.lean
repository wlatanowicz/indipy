/-
  C01, client side: what a definition, an update and a deletion of a vector do to the view a mirror holds of it
  (`upd_def`, `upd_set`, `upd_del`), for a peer that reads the object itself or its wire image (`rdm`).  A peer
  processes an emitted message as `rdm` reads it (`recv_emitted`); its mirror stays a dict of dicts and learns of no
  device that no message names (`deliver_wf`, `devkeys_deliver`); its view of a property after a batch is the fold of
  `updP` over the messages addressing it (`look_deliver`).  SysPeer takes from here what that fold does, against `VS`
  (`synced` for one vector): the definition or deletion among announcements brings the view in line and every other
  announcement keeps it there (`updP_head`, `updP_amsg`, `fold_amsg`); of updates the last one decides (`fold_wr`).
-/
import Indi.Proofs.SysDefs
import Indi.Proofs.SysB64

namespace Indi.SysP
open Indi Indi.Dev Indi.Cli Indi.Sys Indi.Spec.Sys Indi.Spec.Dev

attribute [local simp] s_inj

/-- a text value as the peer reads it: in-process the object's, over the wire the parser's -/
def rdVal (ip : Bool) (v : Option Str) : Option Str := if ip then v else C03.canonVal v

def rdm (ip : Bool) (m : Msg) : Msg := if ip then m else C03.canon m

theorem attr_canonFields_ne (fs : List (Str × Option Str)) (k : String) (h : s k ≠ s "value") :
    attr (C03.canonFields fs) k = attr fs k := by
  unfold attr
  rw [C03.alookup_canonFields]
  have : C03.cv (s k) = id := by funext v; simp [C03.cv, h]
  rw [this]; simp

theorem attr_canonFields_value (fs : List (Str × Option Str)) :
    attr (C03.canonFields fs) "value" = C03.canonVal (attr fs "value") :=
  (valueOf_eq _).symm.trans ((C03.valueOf_canonFields fs).trans (congrArg _ (valueOf_eq fs)))

theorem rdm_tag (ip : Bool) (m : Msg) : (rdm ip m).tag = m.tag := by
  unfold rdm; split <;> rfl

theorem rdm_attr (ip : Bool) (m : Msg) (k : String) (h : s k ≠ s "value") :
    attr (rdm ip m).fields k = attr m.fields k := by
  unfold rdm; split
  · rfl
  · exact attr_canonFields_ne _ _ h

theorem rdm_children (ip : Bool) (m : Msg) :
    (rdm ip m).children.getD [] = (m.children.getD []).map (wirePart ip) := by
  unfold rdm wirePart
  cases ip
  · exact C03.canon_children m
  · simp

theorem rdPart_attr (ip : Bool) (p : Part) (k : String) (h : s k ≠ s "value") :
    attr (wirePart ip p).fields k = attr p.fields k := by
  unfold wirePart; split
  · rfl
  · exact attr_canonFields_ne _ _ h

theorem rdPart_value (ip : Bool) (p : Part) :
    attr (wirePart ip p).fields "value" = rdVal ip (attr p.fields "value") := by
  unfold wirePart rdVal; split
  · rfl
  · exact attr_canonFields_value _

theorem normVal_rdVal (ip : Bool) (v : Option Str) : normVal (rdVal ip v) = normVal v := by
  unfold rdVal; split
  · rfl
  · exact C03.normVal_canonVal v

theorem rdVal_none (ip : Bool) : rdVal ip none = none := by
  unfold rdVal; split <;> rfl

theorem rdm_key (ip : Bool) (m : Msg) : key (rdm ip m) = key m := by
  unfold key
  rw [rdm_attr ip m "device" (by simp), rdm_attr ip m "name" (by simp)]

theorem vecShown_iff (b : Bool) (g : Group) (v : Vec) (c : CVec) :
    vecShown b g v c = true ↔
      c.kind = vkind v.kind ∧ c.name = some v.name ∧ c.group = some g.name ∧ c.label = some v.label ∧
      (if v.kind = .blob ∧ b = false then List.Forall₂ ElemNamed ((enabledElems v).map elemView) c.elems
       else c.state = some v.state ∧ List.Forall₂ (ElemFull v.kind) ((enabledElems v).map elemView) c.elems) := by
  have hz : ∀ P : Dev.Elem × (Option Str × CElem) → Bool,
      (c.elems.length == (v.elems.filter (·.enabled)).length && ((v.elems.filter (·.enabled)).zip c.elems).all P) = true ↔
        List.Forall₂ (fun e ce => P (e, ce) = true) (enabledElems v) c.elems := fun P => by
    rw [Bool.and_eq_true, beq_iff_eq]; exact zip_all_iff_forall₂ _ _ P
  simp only [vecShown, Bool.and_eq_true, beq_iff_eq, and_assoc, List.forall₂_map_left_iff]
  refine and_congr_right fun _ => and_congr_right fun _ => and_congr_right fun _ => and_congr_right fun _ => ?_
  by_cases hc : v.kind = .blob ∧ b = false
  · rw [if_pos hc, if_pos (by simp [hc.1, hc.2]), hz]
    simp [ElemNamed, elemView, and_assoc]
  · rw [if_neg hc, if_neg (by simpa using hc), Bool.and_eq_true, beq_iff_eq, hz]
    simp [ElemFull, elemShown_eq, elemView]

theorem vecShape_of_shown {b : Bool} {g : Group} {v : Vec} {c : CVec} (h : vecShown b g v c = true) :
    vecShape g v c := by
  rw [vecShown_iff] at h
  obtain ⟨h1, h2, h3, h4, h5⟩ := h
  refine ⟨h1, h2, h3, h4, ?_⟩
  split at h5
  · exact h5
  · exact h5.2.imp fun _ _ h => h.named

theorem shown_false_of_shape {g : Group} {v : Vec} {c : CVec} (hk : v.kind = .blob) (h : vecShape g v c) :
    vecShown false g v c = true := by
  rw [vecShown_iff]
  obtain ⟨h1, h2, h3, h4, h5⟩ := h
  refine ⟨h1, h2, h3, h4, ?_⟩
  rw [if_pos ⟨hk, rfl⟩]
  exact h5

theorem shown_false_of_true {g : Group} {v : Vec} {c : CVec} (h : vecShown true g v c = true) :
    vecShown false g v c = true := by
  by_cases hk : v.kind = .blob
  · exact shown_false_of_shape hk (vecShape_of_shown h)
  · rw [vecShown_iff] at h ⊢
    obtain ⟨h1, h2, h3, h4, h5⟩ := h
    refine ⟨h1, h2, h3, h4, ?_⟩
    rw [if_neg (by simp [hk])] at h5 ⊢
    exact h5

theorem vecShown_congr {g v g' v'} (h : ViewEq g v g' v') (b : Bool) (c : CVec) :
    vecShown b g' v' c = vecShown b g v c := by
  obtain ⟨h1, h2, h3, h4, h5, h6⟩ := h
  apply Bool.eq_iff_iff.2
  rw [vecShown_iff, vecShown_iff, h1, h2, h3, h4, h5, h6]

theorem forall₂_named_iff (l : List (Str × Str × Str × Value)) (c : List (Option Str × CElem)) :
    List.Forall₂ ElemNamed l c ↔
      List.Forall₂ (fun (x : Str × Str) (ce : Option Str × CElem) =>
        ce.1 = some x.1 ∧ ce.2.name = some x.1 ∧ ce.2.label = some x.2) (l.map fun x => (x.1, x.2.1)) c := by
  rw [List.forall₂_map_left_iff]
  rfl

theorem vecShape_congr {g v g' v'} (h : ShapeEq g v g' v') (c : CVec) : vecShape g' v' c ↔ vecShape g v c := by
  obtain ⟨h1, h2, h3, h4, h5⟩ := h
  unfold vecShape
  rw [forall₂_named_iff, forall₂_named_iff, h1, h2, h3, h4]
  have e : ∀ w : Vec, ((enabledElems w).map elemView).map (fun x => (x.1, x.2.1)) =
      (enabledElems w).map (fun e => (e.d.name, e.d.label)) := by
    intro w; simp [List.map_map, Function.comp_def, elemView]
  rw [e, e, h5]

theorem elemsOfDef_nodup : ∀ ps : List Part, (ps.map fun p => attr p.fields "name").Nodup →
    Spec.Cli.elemsOfDef ps = ps.map fun p =>
      (attr p.fields "name", { name := attr p.fields "name", label := attr p.fields "label", value := textVal p.fields })
  | [], _ => rfl
  | p :: ps, h => by
    rw [List.map_cons, List.nodup_cons] at h
    have ih := elemsOfDef_nodup ps h.2
    have hnone : olook (attr p.fields "name") (Spec.Cli.elemsOfDef ps) = none := by
      rw [olook_none_iff, ih, List.map_map]
      exact h.1
    show (attr p.fields "name", (olook (attr p.fields "name") (Spec.Cli.elemsOfDef ps)).getD _) ::
      odel (attr p.fields "name") (Spec.Cli.elemsOfDef ps) = _
    rw [hnone, odel_of_look_none _ _ hnone, ih]
    rfl

def textOf : Option Str → CVal
  | some t => .text t
  | none => .none

theorem shown_text {k : Kind} (hk : k ≠ .blob) {fmt : Str} {val : Value} {a : Option Str} (ip : Bool)
    (hw : wireText k fmt val = some (normVal a)) (n l : Str) :
    elemShownV k (n, l, fmt, val) { name := some n, label := some l, value := textOf (rdVal ip a) } = true := by
  have hnv : normVal (rdVal ip a) = normVal a := normVal_rdVal ip a
  cases k
  case blob => exact absurd rfl hk
  -- by `hw` and `hnv` the wire text is `some (normVal (rdVal ip a))` and the entry holds `rdVal ip a`: a text is
  -- compared through `normVal` (`simp` is done), no text with `some none`, and `normVal none = none` (the `rfl`)
  all_goals
    cases hx : rdVal ip a <;> rw [hx] at hnv <;> simp [elemShownV, textOf, hw, ← hnv]
    rfl

theorem textVal_rdPart (ip : Bool) (p : Part) :
    textVal (wirePart ip p).fields = textOf (rdVal ip (attr p.fields "value")) := by
  unfold textVal textOf
  rw [rdPart_value]
  cases rdVal ip (attr p.fields "value") <;> rfl

theorem elemFull_def {k : Kind} {e : Dev.Elem} {p : Part} (h : defPart k e = .ok p) (ip : Bool) :
    ElemFull k (elemView e)
      (attr (wirePart ip p).fields "name",
       { name := attr (wirePart ip p).fields "name", label := attr (wirePart ip p).fields "label",
         value := textVal (wirePart ip p).fields }) := by
  obtain ⟨h1, h2, h3, h4⟩ := defPart_spec h
  rw [rdPart_attr ip p "name" (by simp), rdPart_attr ip p "label" (by simp), h1, h2, textVal_rdPart]
  refine ⟨rfl, ?_⟩
  by_cases hk : k = .blob
  · subst hk
    rw [h4 rfl, rdVal_none]
    simp [elemShownV, elemView, textOf]
  · exact shown_text hk ip (h3 hk) _ _

theorem upd_def {dn : Str} {g : Group} {v : Vec} {m : Msg} (h : defMsg dn g v = .ok m) (hen : vecEnabled g v = true)
    (hnd : ((enabledElems v).map (·.d.name)).Nodup) (ip b : Bool) (oc : Option CVec) :
    ∃ c, upd oc (rdm ip m) = some c ∧ vecShown b g v c = true := by
  obtain ⟨ps, hps, htag, hch, hdev, hname, hstate, hlabel, hgroup⟩ := defMsg_enabled h hen
  have hk : defKind (rdm ip m).tag = some (vkind v.kind) := by rw [rdm_tag, htag]; exact defKind_def _
  refine ⟨defVec (vkind v.kind) (rdm ip m), by simp [upd, hk], ?_⟩
  have hF := mapParts_forall₂ hps
  have hnd' : ((ps.map (wirePart ip)).map fun p => attr p.fields "name").Nodup := by
    rw [List.map_map, ← forall₂_map_eq (g := (fun p => attr p.fields "name") ∘ wirePart ip) hF fun e p hep =>
      ((rdPart_attr ip p "name" (by simp)).trans (defPart_spec hep).1).symm]
    exact nodup_some_names hnd
  have hel : (defVec (vkind v.kind) (rdm ip m)).elems = (ps.map (wirePart ip)).map fun p =>
      (attr p.fields "name", { name := attr p.fields "name", label := attr p.fields "label", value := textVal p.fields }) := by
    simp only [defVec, rdm_children, hch, Option.getD_some, defElems_eq]
    exact elemsOfDef_nodup _ hnd'
  have hfull : List.Forall₂ (ElemFull v.kind) ((enabledElems v).map elemView) (defVec (vkind v.kind) (rdm ip m)).elems := by
    rw [hel, List.forall₂_map_left_iff, List.forall₂_map_right_iff, List.forall₂_map_right_iff]
    exact hF.imp fun e p hep => elemFull_def hep ip
  rw [vecShown_iff]
  refine ⟨rfl, ?_, ?_, ?_, ?_⟩
  · simp only [defVec, rdm_attr ip m "name" (by simp), hname]
  · simp only [defVec, rdm_attr ip m "group" (by simp), hgroup]
  · simp only [defVec, rdm_attr ip m "label" (by simp), hlabel]
  · split
    · exact hfull.imp fun _ _ h => h.named
    · refine ⟨?_, hfull⟩
      simp only [defVec, rdm_attr ip m "state" (by simp), hstate]

theorem upd_del (dn vn : Str) (ip : Bool) (oc : Option CVec) : upd oc (rdm ip (delMsg dn vn)) = none := by
  have h3 : (rdm ip (delMsg dn vn)).tag = s "delProperty" := by rw [rdm_tag]; rfl
  simp [upd, h3, classify_del]

/-- children that name the entries of a dict in order (`R` ties an entry, `S` a child to the `x` they are about),
each with an acceptable value: every entry takes its child's value, which is what `T` asks for -/
theorem applySet_forall₂ (kind : VKind) (dev vec : Option Str) {α : Type} {R : α → Option Str × CElem → Prop}
    {S : α → Part → Prop} {T : α → Option Str × CElem → Prop}
    (hRS : ∀ x ke p, R x ke → S x p → attr p.fields "name" = ke.1 ∧
      ∃ nv, newValOf kind p = .ok nv ∧ T x (ke.1, { ke.2 with value := nv })) :
    ∀ {xs : List α} {todo : List (Option Str × CElem)} {ps : List Part}, List.Forall₂ R xs todo → List.Forall₂ S xs ps →
      ∀ done : List (Option Str × CElem), ((done ++ todo).map Prod.fst).Nodup →
      ∃ res, (applySet kind dev vec (done ++ todo) ps).1 = done ++ res ∧ List.Forall₂ T xs res
  | _, _, _, .nil, .nil, done, _ => ⟨[], rfl, .nil⟩
  | _, _, _, .cons (b := (k, e)) hr tr, .cons (b := p) hs ts, done, hnd => by
    obtain ⟨hname, nv, hval, ht⟩ := hRS _ _ _ hr hs
    rw [List.map_append] at hnd
    have hnot : k ∉ done.map Prod.fst := fun hk => (List.nodup_append.1 hnd).2.2 k hk k List.mem_cons_self rfl
    obtain ⟨res, h1, h2⟩ := applySet_forall₂ kind dev vec hRS tr ts (done ++ [(k, { e with value := nv })])
      (by rw [List.append_assoc, List.map_append]; exact hnd)
    refine ⟨(k, { e with value := nv }) :: res, ?_, .cons ht h2⟩
    rw [applySet_cons, hname, olook_append_cons hnot, hval]
    dsimp only
    rw [oput_append_cons hnot]
    rwa [List.append_assoc, List.append_assoc] at h1

/-- a BLOB part as the peer reads it: the part itself, or its wire image - the text still reads as the encoding -/
theorem rdPart_blobPart (ip : Bool) (n : Option Str) (bs : List Nat) (f : Option Str) :
    ∃ v, wirePart ip (Sys.blobPart n bs f) = Sys.blobPart' n v bs.length f ∧ v.getD [] = B64.encode bs := by
  cases ip
  · exact ⟨_, Sys.canonPart_blobPart n bs f, Sys.canonVal_encode bs⟩
  · exact ⟨_, rfl, rfl⟩

theorem rdPart_noneBlobPart (ip : Bool) (n : Option Str) :
    ∃ v, wirePart ip (Sys.noneBlobPart n) = Sys.blobPart' n v ([] : List Nat).length (some []) ∧ v.getD [] = B64.encode [] := by
  cases ip
  · exact ⟨none, by simp [wirePart, Sys.noneBlobPart, Sys.blobPart', C03.canonPart, C03.canonFields, C03.cv, C03.canonVal, Sys.natStr_zero], rfl⟩
  · exact ⟨none, by simp [wirePart, Sys.noneBlobPart, Sys.blobPart', Sys.natStr_zero], rfl⟩

theorem attr_name_blobPartOf (e : Dev.Elem) : attr (Sys.blobPartOf e).fields "name" = some e.d.name := by
  unfold Sys.blobPartOf
  split <;> simp [attr, alookup, Sys.blobPart, Sys.noneBlobPart]

/-- both cases of `blobPartOf` at once: an unset BLOB travels as no bytes, format "" -/
theorem rdPart_blobPartOf (ip : Bool) (e : Dev.Elem) (hv : valueOk .blob (readValue e) = true) :
    ∃ v bs f, wirePart ip (Sys.blobPartOf e) = Sys.blobPart' (some e.d.name) v bs.length f ∧ v.getD [] = B64.encode bs ∧
      (readValue e = .blob bs f ∨ readValue e = .none ∧ bs = [] ∧ f = some []) := by
  unfold Sys.blobPartOf
  cases hr : readValue e with
  | blob bs f =>
    obtain ⟨v, hp, hv'⟩ := rdPart_blobPart ip (some e.d.name) bs f
    exact ⟨v, bs, f, hp, hv', .inl rfl⟩
  | none =>
    obtain ⟨v, hp, hv'⟩ := rdPart_noneBlobPart ip (some e.d.name)
    exact ⟨v, [], some [], hp, hv', .inr ⟨rfl, rfl, rfl⟩⟩
  | _ => rw [hr] at hv; cases hv

theorem one_elem {k : Kind} {e : Dev.Elem} {p : Part} (h : onePart k e = .ok p) (hok : elemOk k e = true)
    (hb : bytesOk e.value = true) (ip : Bool) :
    attr (wirePart ip p).fields "name" = some e.d.name ∧
    ∃ nv, newValOf (vkind k) (wirePart ip p) = .ok nv ∧
      elemShownV k (elemView e) { name := some e.d.name, label := some e.d.label, value := nv } = true := by
  rw [rdPart_attr ip p "name" (by simp)]
  by_cases hk : k = .blob
  · subst hk
    have hv := Dev.readValue_ok hok
    rw [Sys.onePart_blob_ok e hv] at h
    cases h
    -- the peer decodes the device's value
    obtain ⟨v, bs, f, hp, hv', hr⟩ := rdPart_blobPartOf ip e hv
    refine ⟨attr_name_blobPartOf e, .blob bs f, ?_, ?_⟩
    · rw [hp]
      refine Sys.blobFromPart_read _ v bs f ?_ hv'
      rcases hr with hr | ⟨_, rfl, _⟩
      · simpa [bytesOk, ← readValue_blob hok, hr] using hb
      · exact fun _ h => nomatch h
    · rcases hr with hr | ⟨hr, rfl, rfl⟩ <;> simp [elemShownV, elemView, hr]
  · obtain ⟨hn, hw⟩ := onePart_spec hk h
    refine ⟨hn, textVal (wirePart ip p).fields, by cases k <;> first | exact absurd rfl hk | rfl, ?_⟩
    rw [textVal_rdPart]
    exact shown_text hk ip hw e.d.name e.d.label

theorem upd_set {dn : Str} {g : Group} {v : Vec} {m : Msg} (h : setMsg dn g v = .ok (some m)) (hg : VG v)
    (ip : Bool) {c : CVec} (hs : vecShape g v c) :
    ∃ c', upd (some c) (rdm ip m) = some c' ∧ vecShown true g v c' = true := by
  obtain ⟨_, ps, hps, htag, hch, hdev, hname, hstate⟩ := setMsg_some h
  obtain ⟨hs1, hs2, hs3, hs4, hs5⟩ := hs
  have hk1 : defKind (rdm ip m).tag = none := by rw [rdm_tag, htag]; exact defKind_set _
  have hk2 : setKind (rdm ip m).tag = some (vkind v.kind) := by rw [rdm_tag, htag]; exact setKind_set _
  refine ⟨setVecC (vkind v.kind) (rdm ip m) c, by simp [upd, hk1, hk2, hs1], ?_⟩
  rw [List.forall₂_map_left_iff] at hs5
  have hnd : (([] ++ c.elems).map Prod.fst).Nodup := by
    rw [List.nil_append, ← forall₂_map_eq hs5 fun e ce h => h.1.symm]
    exact nodup_some_names hg.nodup
  have hQ : List.Forall₂ (fun e q => attr q.fields "name" = some e.d.name ∧ ∃ nv, newValOf (vkind v.kind) q = .ok nv ∧
      elemShownV v.kind (elemView e) { name := some e.d.name, label := some e.d.label, value := nv } = true)
      (enabledElems v) (ps.map (wirePart ip)) := by
    rw [List.forall₂_map_right_iff, List.forall₂_iff_zip]
    obtain ⟨hl, hF⟩ := List.forall₂_iff_zip.1 (mapParts_forall₂ hps)
    refine ⟨hl, fun {e p} hep => ?_⟩
    have hmem : e ∈ v.elems := (List.mem_filter.1 (List.of_mem_zip hep).1).1
    exact one_elem (hF hep) (vecOk_elems hg.ok e hmem) (List.all_eq_true.1 hg.bytes e hmem) ip
  obtain ⟨res, hel, hfull⟩ := applySet_forall₂ (vkind v.kind) (attr (rdm ip m).fields "device")
    (attr (rdm ip m).fields "name") (T := fun e ke => ElemFull v.kind (elemView e) ke)
    (fun e ke q hn hq => ⟨hq.1.trans hn.1.symm, by
      obtain ⟨nv, h2, h3⟩ := hq.2
      obtain ⟨k, cn, cl, cv⟩ := ke
      obtain ⟨hk, rfl, rfl⟩ := hn
      exact ⟨nv, h2, hk, h3⟩⟩) hs5 hQ [] hnd
  rw [List.nil_append, List.nil_append] at hel
  rw [vecShown_iff]
  refine ⟨hs1, hs2, hs3, hs4, ?_⟩
  rw [if_neg (by simp)]
  refine ⟨by simp only [setVecC, rdm_attr ip m "state" (by simp), hstate], ?_⟩
  simp only [setVecC, rdm_children, hch, Option.getD_some, hel]
  exact List.forall₂_map_left_iff.2 hfull

theorem upd_set_none {dn : Str} {g : Group} {v : Vec} {m : Msg} (h : setMsg dn g v = .ok (some m)) (ip : Bool) :
    upd none (rdm ip m) = none := by
  obtain ⟨_, _, _, htag, _⟩ := setMsg_some h
  have hk1 : defKind (rdm ip m).tag = none := by rw [rdm_tag, htag]; exact defKind_set _
  have hk2 : setKind (rdm ip m).tag = some (vkind v.kind) := by rw [rdm_tag, htag]; exact setKind_set _
  simp [upd, hk1, hk2]

def updP (blobs ip : Bool) (oc : Option CVec) (m : Msg) : Option CVec :=
  if isSetBlob m && !blobs then oc else upd oc (rdm ip m)

theorem updP_eq_upd {m : Msg} (h : isSetBlob m = false) (blobs ip : Bool) (oc : Option CVec) :
    updP blobs ip oc m = upd oc (rdm ip m) := by
  rw [updP, h, Bool.false_and, if_neg Bool.false_ne_true]

theorem Emitted.rdm_name {m : Msg} (h : Emitted m) (ip : Bool) (ht : (rdm ip m).tag = s "delProperty") :
    (attr (rdm ip m).fields "name").isSome = true := by
  rw [rdm_tag] at ht
  rw [rdm_attr _ _ "name" (by simp)]
  exact h.2 ht

theorem recv_emitted (p : Peer) (m : Msg) (h : Emitted m) :
    recv reg p m = if isSetBlob m && !p.blobs then p
      else { p with mirror := (processMessage p.mirror (rdm p.inproc m)).mirror } := by
  unfold recv rdm
  split
  · rfl
  · cases hip : p.inproc
    · simp [h.1]
    · simp

theorem recv_flags (p : Peer) (m : Msg) :
    (recv reg p m).blobs = p.blobs ∧ (recv reg p m).inproc = p.inproc ∧ (recv reg p m).also = p.also := by
  unfold recv
  split
  · exact ⟨rfl, rfl, rfl⟩
  · split <;> exact ⟨rfl, rfl, rfl⟩

theorem recv_wf (p : Peer) (m : Msg) (hwf : VWf p.mirror) : VWf (recv reg p m).mirror := by
  unfold recv
  split
  · exact hwf
  · split
    · exact hwf
    · exact VWf_processMessage _ _ hwf

theorem deliver_flags (L : List Msg) (p : Peer) :
    (deliver reg p L).blobs = p.blobs ∧ (deliver reg p L).inproc = p.inproc ∧ (deliver reg p L).also = p.also :=
  List.foldlRecOn (motive := fun q => q.blobs = p.blobs ∧ q.inproc = p.inproc ∧ q.also = p.also) L (recv reg)
    ⟨rfl, rfl, rfl⟩ fun q hq m _ =>
      let ⟨k1, k2, k3⟩ := recv_flags q m
      ⟨k1.trans hq.1, k2.trans hq.2.1, k3.trans hq.2.2⟩

theorem deliver_wf (L : List Msg) (p : Peer) (hwf : VWf p.mirror) : VWf (deliver reg p L).mirror :=
  List.foldlRecOn (motive := fun q => VWf q.mirror) L (recv reg) hwf fun q hq m _ => recv_wf q m hq

theorem look_recv (p : Peer) (m : Msg) (h : Emitted m) (hwf : VWf p.mirror) (dn vn : Option Str) :
    look (recv reg p m).mirror dn vn =
      if key m = (dn, vn) then updP p.blobs p.inproc (look p.mirror dn vn) m else look p.mirror dn vn := by
  rw [recv_emitted p m h]
  unfold updP
  by_cases hsk : (isSetBlob m && !p.blobs) = true
  · simp [hsk]
  · simp only [hsk, Bool.false_eq_true, if_false]
    rw [look_process _ _ hwf (h.rdm_name _), rdm_key]

theorem look_deliver (L : List Msg) (dn vn : Option Str) : ∀ p : Peer, (∀ m ∈ L, Emitted m) → VWf p.mirror →
    look (deliver reg p L).mirror dn vn =
      (L.filter fun m => decide (key m = (dn, vn))).foldl (updP p.blobs p.inproc) (look p.mirror dn vn) := by
  induction L with
  | nil => intro p _ _; rfl
  | cons m L ih =>
    intro p hE hwf
    have hm := hE m List.mem_cons_self
    have ih' := ih (recv reg p m) (fun x hx => hE x (List.mem_cons_of_mem _ hx)) (recv_wf p m hwf)
    obtain ⟨k1, k2, _⟩ := recv_flags p m
    show look (deliver reg (recv reg p m) L).mirror dn vn = _
    rw [ih', k1, k2, look_recv p m hm hwf]
    by_cases hk : key m = (dn, vn)
    · simp [hk]
    · simp [hk]

theorem devkeys_deliver (L : List Msg) (p : Peer) (hE : ∀ m ∈ L, Emitted m) :
    ∀ k ∈ (deliver reg p L).mirror.map Prod.fst,
      k ∈ p.mirror.map Prod.fst ∨ ∃ m ∈ L, k = attr m.fields "device" :=
  List.foldlRecOn (motive := fun q => ∀ k ∈ q.mirror.map Prod.fst,
      k ∈ p.mirror.map Prod.fst ∨ ∃ m ∈ L, k = attr m.fields "device") L (recv reg)
    (fun _ hk => Or.inl hk) fun q hq m hm k hk => by
    rw [recv_emitted q m (hE m hm)] at hk
    split at hk
    · exact hq k hk
    · rcases devkeys_process _ _ k hk with h | ⟨_, h⟩
      · exact hq k h
      · exact Or.inr ⟨m, hm, by rw [h, rdm_attr _ _ "device" (by simp)]⟩

theorem GoodV.shaped {b g' v' oc} (h : GoodV b g' v' oc) : Shaped g' v' oc := by
  obtain ⟨c, h1, h2⟩ := h
  exact ⟨c, h1, vecShape_of_shown h2⟩

theorem GoodV.of_true {b g' v' oc} (h : GoodV true g' v' oc) : GoodV b g' v' oc := by
  cases b
  · obtain ⟨c, h1, h2⟩ := h
    exact ⟨c, h1, shown_false_of_true h2⟩
  · exact h

theorem GoodV.congr {b g v g' v' oc} (hv : ViewEq g v g' v') (h : GoodV b g v oc) : GoodV b g' v' oc :=
  let ⟨c, hc, hs⟩ := h
  ⟨c, hc, (vecShown_congr hv b c).trans hs⟩

theorem updP_def {dn g' v' m} (h : IsDef dn g' v' m) (b ip : Bool) (oc : Option CVec) :
    GoodV b g' v' (updP b ip oc m) := by
  obtain ⟨g, v, hm, hen, hg, hv⟩ := h
  rw [updP_eq_upd (isSetBlob_of_def hm)]
  exact GoodV.congr hv (upd_def hm hen hg.nodup ip b oc)

theorem Shaped.congr {g v g' v' oc} (h : ShapeEq g v g' v') (hs : Shaped g v oc) : Shaped g' v' oc :=
  let ⟨c, hc, hs⟩ := hs
  ⟨c, hc, (vecShape_congr h c).2 hs⟩

theorem updP_setV_shaped {dn g' v' m} (h : IsSetV dn g' v' m) (b ip : Bool) {oc : Option CVec} (hs : Shaped g' v' oc) :
    GoodV b g' v' (updP b ip oc m) := by
  obtain ⟨g, v, hm, hg, hv⟩ := h
  unfold updP
  split
  · rename_i hsk
    -- skipped: a BLOB update for a peer without BLOBs, which sees the shape only
    rw [isSetBlob_of_set hm] at hsk
    simp only [Bool.and_eq_true, decide_eq_true_eq, Bool.not_eq_true'] at hsk
    obtain ⟨c, rfl, hc⟩ := hs
    refine ⟨c, rfl, ?_⟩
    rw [hsk.2]
    exact shown_false_of_shape (hv.kind.trans hsk.1) hc
  · obtain ⟨c, rfl, hc⟩ := hs.congr hv.shape.symm
    exact GoodV.of_true (GoodV.congr hv (upd_set hm hg ip hc))

/-- an update of a vector of the same shape shows that vector, so it keeps the shape -/
theorem updP_setS {dn g' v' m} (h : IsSetS dn g' v' m) (b ip : Bool) {oc : Option CVec} (hs : Shaped g' v' oc) :
    Shaped g' v' (updP b ip oc m) :=
  let ⟨g, v, hm, hg, hv⟩ := h
  (updP_setV_shaped ⟨g, v, hm, hg, ViewEq.refl g v⟩ b ip (hs.congr hv.symm)).shaped.congr hv

/-- `synced` for one vector (`synced_iff`) -/
def VS (b : Bool) (g : Group) (v : Vec) (oc : Option CVec) : Prop :=
  if vecEnabled g v = true then GoodV b g v oc else oc = none

theorem VS.enabled_iff {b : Bool} {g : Group} {v : Vec} {oc : Option CVec} (hen : vecEnabled g v = true) :
    VS b g v oc ↔ GoodV b g v oc := by
  rw [VS, if_pos hen]

theorem VS.disabled_iff {b : Bool} {g : Group} {v : Vec} {oc : Option CVec} (hen : vecEnabled g v = false) :
    VS b g v oc ↔ oc = none := by
  rw [VS, if_neg (by rw [hen]; exact Bool.false_ne_true)]

theorem VS.congr {b : Bool} {g g' : Group} {v v' : Vec} {oc : Option CVec} (he : vecEnabled g' v' = vecEnabled g v)
    (hv : vecEnabled g v = true → ViewEq g v g' v') (h : VS b g v oc) : VS b g' v' oc := by
  cases hen : vecEnabled g v
  · exact (VS.disabled_iff (he.trans hen)).2 ((VS.disabled_iff hen).1 h)
  · exact (VS.enabled_iff (he.trans hen)).2 (((VS.enabled_iff hen).1 h).congr (hv hen))

theorem updP_head {dn g v m} (h : AHead dn g v m) (b ip : Bool) (oc : Option CVec) : VS b g v (updP b ip oc m) := by
  rcases h with ⟨hen, hd⟩ | ⟨hen, rfl⟩
  · exact (VS.enabled_iff hen).2 (updP_def hd b ip oc)
  · rw [VS.disabled_iff hen, updP_eq_upd (isSetBlob_delMsg ..)]
    exact upd_del dn v.name ip oc

theorem updP_amsg {dn g v m} (h : AMsg dn g v m) (b ip : Bool) {oc : Option CVec} (hs : VS b g v oc) :
    VS b g v (updP b ip oc m) := by
  rcases h with ⟨hen, hd | hv⟩ | ⟨hen, rfl⟩
  · exact updP_head (Or.inl ⟨hen, hd⟩) b ip oc
  · rw [VS.enabled_iff hen] at hs ⊢
    exact updP_setV_shaped hv b ip hs.shaped
  · exact updP_head (Or.inr ⟨hen, rfl⟩) b ip oc

/-- announcements, in whatever order and however often they arrive: the definition (or deletion) among them brings
the view in line, and every later message keeps it there -/
theorem fold_amsg (dn : Str) (g : Group) (v : Vec) (b ip : Bool) (A : List Msg) (oc : Option CVec)
    (hA : ∀ m ∈ A, AMsg dn g v m) (hh : ∃ m ∈ A, AHead dn g v m) : VS b g v (A.foldl (updP b ip) oc) := by
  obtain ⟨m0, hm0, hh⟩ := hh
  obtain ⟨A1, A2, rfl⟩ := List.append_of_mem hm0
  rw [List.foldl_append, List.foldl_cons]
  exact List.foldlRecOn A2 _ (updP_head hh b ip _) fun _ h m hm =>
    updP_amsg (hA m (List.mem_append_right _ (List.mem_cons_of_mem _ hm))) b ip h

theorem fold_del (dn vn : Str) (b ip : Bool) (A : List Msg) (oc : Option CVec) (hA : ∀ m ∈ A, m = delMsg dn vn)
    (hne : A ≠ []) : A.foldl (updP b ip) oc = none := by
  obtain ⟨m0, hm0⟩ := List.exists_mem_of_ne_nil _ hne
  exact fold_amsg dn ⟨[], false, []⟩ (offVec vn) b ip A oc
    (fun m hm => Or.inr ⟨rfl, hA m hm⟩) ⟨m0, hm0, Or.inr ⟨rfl, hA m0 hm0⟩⟩

/-- writes: every update keeps the shape, the last one describes the final view -/
theorem fold_wr (dn : Str) (g' : Group) (v' : Vec) (b ip : Bool) (A : List Msg) (oc : Option CVec)
    (hA : ∀ m ∈ A, IsSetS dn g' v' m) (last : Msg) (hl : A.getLast? = some last) (hlv : IsSetV dn g' v' last)
    (hoc : Shaped g' v' oc) : GoodV b g' v' (A.foldl (updP b ip) oc) := by
  obtain ⟨A', rfl⟩ := List.getLast?_eq_some_iff.1 hl
  rw [List.foldl_append]
  exact updP_setV_shaped hlv b ip (List.foldlRecOn A' _ hoc fun _ h m hm =>
    updP_setS (hA m (List.mem_append_left _ hm)) b ip h)

end Indi.SysP
