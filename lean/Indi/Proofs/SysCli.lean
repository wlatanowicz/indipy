/-
  C01, client side: what one message does to the mirror seen as a map from (device, property) to views
  (`Cli.look`): it changes the view it addresses, by `upd`, and nothing else (`look_process`).  What `submit()`
  builds from a mirror (`submitMsg_some`, `pendingOf_mem`).
-/
import Indi.Spec.Sys
import Indi.Proofs.Cli

namespace Indi.SysP
open Indi Indi.Cli Indi.Sys

def key (m : Msg) : Option Str × Option Str := (attr m.fields "device", attr m.fields "name")

def defVec (kind : VKind) (m : Msg) : CVec :=
  { kind := kind, name := attr m.fields "name", group := attr m.fields "group", label := attr m.fields "label",
    timestamp := attr m.fields "timestamp", message := attr m.fields "message",
    state := attr m.fields "state",
    elems := (defElems (attr m.fields "device") (attr m.fields "name") (m.children.getD [])).1 }

def setVecC (kind : VKind) (m : Msg) (v : CVec) : CVec :=
  { v with state := attr m.fields "state",
           elems := (applySet kind (attr m.fields "device") (attr m.fields "name") v.elems (m.children.getD [])).1 }

/-- what a message does to the view it addresses -/
def upd (oc : Option CVec) (m : Msg) : Option CVec :=
  match defKind m.tag with
  | some kind => some (defVec kind m)
  | none =>
    match setKind m.tag with
    | some kind =>
      (match oc with
       | none => none
       | some v => if v.kind != kind then some v else some (setVecC kind m v))
    | none => if m.tag = s "delProperty" then none else oc

/-- the mirror is a dict of dicts: no device entry holds a property name twice -/
def VWf (σ : Mirror) : Prop := ∀ nd ∈ σ, (nd.2.vecs.map Prod.fst).Nodup

theorem VWf_look {σ : Mirror} {dn : Option Str} {cd : CDev} (h : VWf σ) (hl : olook dn σ = some cd) :
    (cd.vecs.map Prod.fst).Nodup := h _ (olook_mem _ _ _ hl)

theorem VWf_oput {σ : Mirror} (dn : Option Str) (cd : CDev) (h : VWf σ) (hd : (cd.vecs.map Prod.fst).Nodup) :
    VWf (oput dn cd σ) := forall_mem_oput h hd

theorem VWf_processMessage (σ : Mirror) (m : Msg) (h : VWf σ) : VWf (processMessage σ m).mirror := by
  rcases processMessage_shape σ m with e | ⟨d, V, hd, _, e⟩ | ⟨d, hd, _, e⟩ <;> rw [e]
  · exact h
  · exact VWf_oput _ _ h (nodup_keys_oput _ _ _ (hd.elim (VWf_look h) fun hn => hn.2 ▸ List.nodup_nil))
  · split
    · exact fun x hx => h x (mem_odel _ _ _ hx)
    · exact VWf_oput _ _ h (nodup_keys_odel _ _ (VWf_look h hd))

/-- a message that leaves the mirror alone, read as an update of the view it addresses -/
theorem look_same {σ : Mirror} {k : Option Str × Option Str} {x : Option CVec} (dn vn : Option Str)
    (h : k = (dn, vn) → x = look σ dn vn) : look σ dn vn = if k = (dn, vn) then x else look σ dn vn :=
  (ite_eq_right_iff.2 h).symm

/-- `hname`: a `delProperty` without a name removes the whole device, every view of it -/
theorem look_process (σ : Mirror) (m : Msg) (hwf : VWf σ)
    (hname : m.tag = s "delProperty" → (attr m.fields "name").isSome = true) (dn vn : Option Str) :
    look (processMessage σ m).mirror dn vn =
      if key m = (dn, vn) then upd (look σ dn vn) m else look σ dn vn := by
  unfold processMessage upd key
  cases hd : defKind m.tag with
  | some kind =>
    refine look_put (fun vn' => ?_) _ _ dn vn
    cases hdev : olook (attr m.fields "device") σ
    · exact (look_of_none hdev vn').symm
    · exact (look_of_some hdev vn').symm
  | none =>
    simp only
    cases hs : setKind m.tag with
    | some kind =>
      simp only
      cases hdev : olook (attr m.fields "device") σ with
      | none => exact look_same dn vn fun hk => by cases hk; simp [look_of_none hdev]
      | some d =>
        simp only
        cases hv : olook (attr m.fields "name") d.vecs with
        | none => exact look_same dn vn fun hk => by cases hk; simp [look_of_some hdev, hv]
        | some v =>
          simp only
          by_cases hkk : (v.kind != kind) = true
          · simp only [hkk, if_true]
            have hne : v.kind ≠ kind := by simpa using hkk
            exact look_same dn vn fun hk => by cases hk; simp [look_of_some hdev, hv, hne]
          · simp only [hkk, Bool.false_eq_true, if_false]
            have heq : v.kind = kind := by simpa using hkk
            rw [look_put fun vn' => (look_of_some hdev vn').symm]
            split
            · rename_i hk; cases hk; simp [look_of_some hdev, hv, setVecC, heq]
            · rfl
    | none =>
      simp only
      by_cases ht : m.tag = s "delProperty"
      · simp only [ht, if_true]
        have hn := hname ht
        cases hdev : olook (attr m.fields "device") σ with
        | none => exact look_same dn vn fun hk => by cases hk; simp [look_of_none hdev]
        | some d =>
          simp only
          cases hnm : attr m.fields "name" with
          | none => rw [hnm] at hn; cases hn
          | some n =>
            simp only
            rw [look_oput_dev]
            by_cases h1 : attr m.fields "device" = dn
            · subst h1
              by_cases h2 : some n = vn
              · subst h2
                simpa using olook_odel_self _ _ (VWf_look hwf hdev)
              · simp [h2, olook_odel_ne _ _ _ h2, look_of_some hdev]
            · simp [h1]
      · simp [ht]

theorem devkeys_process (σ : Mirror) (m : Msg) :
    ∀ k ∈ (processMessage σ m).mirror.map Prod.fst,
      k ∈ σ.map Prod.fst ∨ ((defKind m.tag).isSome = true ∧ k = attr m.fields "device") := by
  intro k hk
  have known : ∀ {d}, olook (attr m.fields "device") σ = some d → attr m.fields "device" ∈ σ.map Prod.fst :=
    fun hd => List.mem_map.2 ⟨_, olook_mem _ _ _ hd, rfl⟩
  rcases processMessage_shape σ m with e | ⟨d, V, hd, _, e⟩ | ⟨d, hd, _, e⟩ <;> rw [e] at hk
  · exact Or.inl hk
  · rcases mem_keys_oput _ _ _ _ hk with h | rfl
    · exact Or.inl h
    · exact hd.elim (fun hd => Or.inl (known hd)) fun hn => Or.inr ⟨hn.1, rfl⟩
  · left
    cases hn : attr m.fields "name" with
    | none => rw [hn] at hk; exact ((odel_sublist _ _).map _).subset hk
    | some n =>
      rw [hn] at hk
      rcases mem_keys_oput _ _ _ _ hk with h | rfl
      · exact h
      · exact known hd

theorem submitMsg_some {reg : Registry} {σ : Mirror} {dev prop : Str} {writes : List (Str × CVal)} {m : Msg}
    (h : submitMsg reg σ dev prop writes = some m) :
    ∃ d v, olook (some dev) σ = some d ∧ olook (some prop) d.vecs = some v ∧ newTagOf v.kind = some m.tag ∧
      m.children = some (v.elems.filterMap fun ne =>
        match pendingOf writes ne.1 with
        | some val => newPart v.kind ne.2.name val
        | none => none) := by
  unfold submitMsg at h
  split at h
  · cases h
  · rename_i d hd
    split at h
    · cases h
    · rename_i v hv
      split at h
      · cases h
      · split at h
        · cases h
        · rename_i tag htag
          dsimp only at h
          split at h
          · cases h
          · cases h; exact ⟨d, v, hd, hv, htag, rfl⟩

theorem pendingOf_mem {writes : List (Str × CVal)} {name : Option Str} {val : CVal} (h : pendingOf writes name = some val) :
    ∃ n, name = some n ∧ (n, val) ∈ writes := by
  unfold pendingOf at h
  cases name with
  | none => cases h
  | some n =>
    obtain ⟨w, hw, rfl⟩ := Option.map_eq_some_iff.1 h
    have : w.1 = n := by simpa using List.find?_some hw
    exact ⟨n, rfl, this ▸ List.mem_reverse.1 (List.mem_of_find?_eq_some hw)⟩

end Indi.SysP
