/-
  base64 round trip: `decode (encode bs) = bs` for every byte string, and the
  encoding stays inside the base64 alphabet plus `=`.  The model's bytes are unbounded naturals:
  on a list that holds larger numbers the codec still never fails and keeps the length.
-/
import Indi.Model.B64

namespace Indi.B64

theorem a2b_b2a : ∀ n, n < 64 → a2b (b2a n) = some n := by decide +kernel

theorem b2a_ne_pad : ∀ n, n < 64 → b2a n ≠ '=' := by decide +kernel

theorem alphabet_eq : alphabet = (List.range 64).map b2a := by decide +kernel

theorem b2a_mem_alphabet : ∀ n, n < 64 → b2a n ∈ alphabet :=
  fun _ h => alphabet_eq ▸ List.mem_map_of_mem (List.mem_range.2 h)

theorem b2a_sat (n : Nat) : b2a n = b2a (min n 63) := by
  by_cases h : n < 64
  · rw [Nat.min_eq_left (by omega)]
  · rw [Nat.min_eq_right (by omega)]
    unfold b2a
    rw [if_neg (by omega), if_neg (by omega), if_neg (by omega), if_neg (by omega)]
    rfl

theorem b2a_mem (n : Nat) : b2a n ∈ alphabet := by
  rw [b2a_sat]; exact b2a_mem_alphabet _ (by omega)

/-- one data character advances the state machine -/
def advance (st : DecState) (v : Nat) : DecState :=
  match st.quadPos with
  | 0 => { quadPos := 1, leftchar := v, pads := 0, outRev := st.outRev }
  | 1 => { quadPos := 2, leftchar := v % 16, pads := 0, outRev := (st.leftchar * 4 + v / 16) :: st.outRev }
  | 2 => { quadPos := 3, leftchar := v % 4, pads := 0, outRev := (st.leftchar * 16 + v / 4) :: st.outRev }
  | _ => { quadPos := 0, leftchar := 0, pads := 0, outRev := (st.leftchar * 64 + v) :: st.outRev }

theorem step_data (st : DecState) (n : Nat) (cs : Str) :
    decodeLoop st (b2a n :: cs) = decodeLoop (advance st (min n 63)) cs := by
  have hn : min n 63 < 64 := by omega
  obtain ⟨q, l, p, o⟩ := st
  rw [b2a_sat, decodeLoop]
  simp only [b2a_ne_pad _ hn, if_false, a2b_b2a _ hn]
  unfold advance
  rcases q with _ | _ | _ | q <;> rfl

/-- the three items that four characters `b2a n0 … b2a n3` decode to (`b2a` saturates at 63) -/
def regroup (n0 n1 n2 n3 : Nat) : List Nat :=
  [min n0 63 * 4 + min n1 63 / 16, min n1 63 % 16 * 16 + min n2 63 / 4, min n2 63 % 4 * 64 + min n3 63]

/-- three bytes cut into sextets regroup to themselves -/
theorem regroup_bytes {b0 b1 b2 : Nat} (h0 : b0 < 256) (h1 : b1 < 256) (h2 : b2 < 256) :
    regroup (b0 / 4) (b0 % 4 * 16 + b1 / 16) (b1 % 16 * 4 + b2 / 64) (b2 % 64) = [b0, b1, b2] := by
  simp only [regroup, List.cons.injEq, and_true]
  omega

theorem decodeLoop_encode : ∀ (bs : List Nat) (out : List Nat), ∃ bs',
    decodeLoop { quadPos := 0, leftchar := 0, pads := 0, outRev := out } (encode bs) = .ok (out.reverse ++ bs') ∧
    bs'.length = bs.length ∧ ((∀ b ∈ bs, b < 256) → bs' = bs) := by
  intro bs
  induction bs using encode.induct with
  | case1 => intro out; exact ⟨[], by simp [encode, decodeLoop], rfl, fun _ => rfl⟩
  | case2 b0 =>
    -- a last group of one or two bytes is a group of three with zeros for the missing ones, of which the decoder
    -- keeps the first one or two
    intro out
    refine ⟨(regroup (b0 / 4) (b0 % 4 * 16) 0 0).take 1, ?_, rfl, fun h => ?_⟩
    · rw [encode, step_data, step_data]
      simp [advance, decodeLoop, regroup]
    · simpa using congrArg (List.take 1) (regroup_bytes (h b0 (by simp)) (by decide : 0 < 256) (by decide : 0 < 256))
  | case3 b0 b1 =>
    intro out
    refine ⟨(regroup (b0 / 4) (b0 % 4 * 16 + b1 / 16) (b1 % 16 * 4) 0).take 2, ?_, rfl, fun h => ?_⟩
    · rw [encode, step_data, step_data, step_data]
      simp [advance, decodeLoop, regroup]
    · simpa using congrArg (List.take 2) (regroup_bytes (h b0 (by simp)) (h b1 (by simp)) (by decide : 0 < 256))
  | case4 b0 b1 b2 rest ih =>
    intro out
    obtain ⟨bs', e, hl, hb⟩ :=
      ih ((regroup (b0 / 4) (b0 % 4 * 16 + b1 / 16) (b1 % 16 * 4 + b2 / 64) (b2 % 64)).reverse ++ out)
    refine ⟨regroup (b0 / 4) (b0 % 4 * 16 + b1 / 16) (b1 % 16 * 4 + b2 / 64) (b2 % 64) ++ bs', ?_, ?_, fun h => ?_⟩
    · rw [encode, step_data, step_data, step_data, step_data]
      simpa [advance, regroup] using e
    · simp [hl, regroup]
    · rw [hb fun b hm => h b (by simp [hm]), regroup_bytes (h b0 (by simp)) (h b1 (by simp)) (h b2 (by simp))]
      rfl

/-- **C08 (i)**: decoding the encoding of any byte string gives the byte string back -/
theorem decode_encode (bs : List Nat) (h : ∀ b ∈ bs, b < 256) : decode (encode bs) = .ok bs := by
  obtain ⟨bs', e, _, hb⟩ := decodeLoop_encode bs []
  rw [decode, initState, e, hb h]
  rfl

theorem decode_encode_len (bs : List Nat) : ∃ bs', decode (encode bs) = .ok bs' ∧ bs'.length = bs.length := by
  obtain ⟨bs', e, hl, _⟩ := decodeLoop_encode bs []
  exact ⟨bs', e, hl⟩

/-- the encoding consists of base64 alphabet characters and `=` only — in particular no `<`, `>`, `&`,
so it travels through XML text unescaped -/
theorem encode_chars : ∀ (bs : List Nat), ∀ c ∈ encode bs, c ∈ alphabet ∨ c = '=' := by
  intro bs
  induction bs using encode.induct with
  | case1 => simp [encode]
  | case2 b0 => simp [encode, b2a_mem]
  | case3 b0 b1 => simp [encode, b2a_mem]
  | case4 b0 b1 b2 rest ih => simpa [encode, b2a_mem] using ih

theorem no_markup_in_alphabet : '<' ∉ alphabet ∧ '>' ∉ alphabet ∧ '&' ∉ alphabet ∧ '=' ≠ '<' ∧ '=' ≠ '>' ∧ '=' ≠ '&' := by
  rw [alphabet_eq]; decide +kernel

theorem encode_length (bs : List Nat) : (encode bs).length = 4 * ((bs.length + 2) / 3) := by
  induction bs using encode.induct with
  | case1 => rfl
  | case2 b0 => simp [encode]
  | case3 b0 b1 => simp [encode]
  | case4 b0 b1 b2 rest ih => simp only [encode, List.length_cons, ih]; omega

end Indi.B64
