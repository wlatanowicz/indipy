/-
  Refinement of the router model to the history specification: the router's dicts (`nlookup`/`nset`/`ndel`,
  `olookup`/`oset`), histories read newest operation first (`runRev`), and the invariant `Inv` that ties the state
  after a history to the specification's `registered` and `policyOfRev` (`inv_runRev`).
-/
import Indi.Spec.Rtr

namespace Indi.Rtr
open Indi.Spec.Rtr

/-- the test `k = k'` is oriented as in the model and the specification: stored key first (so in the dict lemmas below) -/
theorem nlookup_nset {α : Type} (k k' : Nat) (v : α) (l : List (Nat × α)) :
    nlookup k' (nset k v l) = if k = k' then some v else nlookup k' l := by
  induction l with
  | nil => rfl
  | cons x xs ih =>
    obtain ⟨a, b⟩ := x
    simp only [nset]
    split
    · subst a; simp only [nlookup]; split <;> rfl
    · simp only [nlookup, ih]
      split
      · subst a; rw [if_neg (Ne.symm ‹_›)]
      · rfl

theorem olookup_oset {α : Type} (k k' : Option Str) (v : α) (l : List (Option Str × α)) :
    olookup k' (oset k v l) = if k = k' then some v else olookup k' l := by
  induction l with
  | nil => rfl
  | cons x xs ih =>
    obtain ⟨a, b⟩ := x
    simp only [oset]
    split
    · subst a; simp only [olookup]; split <;> rfl
    · simp only [olookup, ih]
      split
      · subst a; rw [if_neg (Ne.symm ‹_›)]
      · rfl

theorem mem_keys_nset {α : Type} {k : Nat} {v : α} {a : Nat} :
    ∀ {l : List (Nat × α)}, a ∈ (nset k v l).map Prod.fst → a = k ∨ a ∈ l.map Prod.fst
  | [], h => Or.inl (by simpa [nset] using h)
  | x :: xs, h => by
    simp only [nset] at h
    split at h
    · exact Or.inr h
    · rcases List.mem_cons.1 h with h | h
      · exact Or.inr (h ▸ List.mem_cons_self)
      · exact (mem_keys_nset h).imp_right (List.mem_cons_of_mem _)

theorem keys_nset {α : Type} (k : Nat) (v : α) (l : List (Nat × α)) (h : (l.map Prod.fst).Nodup) :
    ((nset k v l).map Prod.fst).Nodup := by
  induction l with
  | nil => simp [nset]
  | cons x xs ih =>
    rw [List.map_cons, List.nodup_cons] at h
    simp only [nset]
    split
    · exact List.nodup_cons.2 h
    · rename_i hne
      exact List.nodup_cons.2 ⟨fun hm => (mem_keys_nset hm).elim hne h.1, ih h.2⟩

theorem nlookup_none_of_not_mem {α : Type} {k : Nat} {l : List (Nat × α)} (h : k ∉ l.map Prod.fst) :
    nlookup k l = none := by
  induction l with
  | nil => rfl
  | cons x xs ih =>
    rw [List.map_cons, List.mem_cons, not_or] at h
    rw [nlookup, if_neg (Ne.symm h.1), ih h.2]

theorem nlookup_ndel {α : Type} (k k' : Nat) (l : List (Nat × α)) (h : (l.map Prod.fst).Nodup) :
    nlookup k' (ndel k l) = if k = k' then none else nlookup k' l := by
  induction l with
  | nil => simp [ndel, nlookup]
  | cons x xs ih =>
    obtain ⟨a, b⟩ := x
    rw [List.map_cons, List.nodup_cons] at h
    simp only [ndel]
    split
    · subst a
      simp only [nlookup]
      split
      · subst k'; exact nlookup_none_of_not_mem h.1
      · rfl
    · simp only [nlookup, ih h.2]
      split
      · subst a; rw [if_neg (Ne.symm ‹_›)]
      · rfl

theorem keys_ndel {α : Type} (k : Nat) (l : List (Nat × α)) (h : (l.map Prod.fst).Nodup) :
    ((ndel k l).map Prod.fst).Nodup := by
  refine h.sublist ?_
  clear h
  induction l with
  | nil => exact List.Sublist.refl _
  | cons x xs ih =>
    simp only [ndel]
    split
    · exact List.sublist_cons_self _ _
    · exact List.Sublist.cons_cons _ ih

theorem nodup_snoc {α : Type} {l : List α} {a : α} (h : l.Nodup) (ha : a ∉ l) : (l ++ [a]).Nodup :=
  List.nodup_append.2 ⟨h, List.nodup_cons.2 ⟨List.not_mem_nil, List.nodup_nil⟩,
    fun x hx y hy e => ha (by rw [← List.mem_singleton.1 hy, ← e]; exact hx)⟩

def runRev : List Op → State
  | [] => init
  | op :: rest => (step (runRev rest) op).1

theorem run_eq_runRev (h : List Op) : run h = runRev h.reverse := by
  unfold run
  rw [← List.foldr_reverse]
  generalize h.reverse = r
  induction r with
  | nil => rfl
  | cons op rest ih => simp only [List.foldr_cons, runRev, ih]

theorem policyOf_snoc (h : List Op) (op : Op) (c : Nat) (d : Option Str) :
    policyOf (h ++ [op]) c d = policyOfRev (op :: h.reverse) c d := by
  rw [policyOf, List.reverse_append]
  rfl

/-- what `blob_routing` is in the state `σ` reached by the operations `r` (newest first): one entry per registered
client, holding the policies the specification reads off the history -/
structure Inv (r : List Op) (σ : State) : Prop where
  keys : (σ.blob.map Prod.fst).Nodup
  reg : ∀ c, (nlookup c σ.blob).isSome = registered r c
  pol : ∀ c d, policyLookup σ c d = policyOfRev r c d

theorem inv_runRev : ∀ (r : List Op), Inv r (runRev r)
  | [] => ⟨List.nodup_nil, fun _ => rfl, fun _ _ => rfl⟩
  | op :: rest => by
    obtain ⟨hk, hr, hp⟩ := inv_runRev rest
    -- an operation that leaves `blob_routing` alone and that the specification passes over
    have same : ∀ {σ : State}, σ.blob = (runRev rest).blob → (∀ c, registered (op :: rest) c = registered rest c) →
        (∀ c d, policyOfRev (op :: rest) c d = policyOfRev rest c d) → Inv (op :: rest) σ := by
      intro σ hb h1 h2
      exact ⟨hb ▸ hk, fun c => by rw [hb, h1, hr], fun c d => by rw [h2, ← hp]; simp only [policyLookup, hb]⟩
    cases op with
    | regDev d => exact same rfl (fun _ => rfl) (fun _ _ => rfl)
    | regCli c0 =>
      refine ⟨keys_nset c0 [] _ hk, fun c => ?_, fun c d => ?_⟩
      · simp only [runRev, step, registered, nlookup_nset]
        split
        · rfl
        · exact hr c
      · simp only [runRev, step, policyOfRev, policyLookup, nlookup_nset]
        by_cases h : c0 = c
        · simp only [if_pos h]; rfl
        · simp only [if_neg h]; exact hp c d
    | unreg c0 =>
      refine ⟨keys_ndel c0 _ hk, fun c => ?_, fun c d => ?_⟩
      · simp only [runRev, step, registered, nlookup_ndel _ _ _ hk]
        split
        · rfl
        · exact hr c
      · simp only [runRev, step, policyOfRev, policyLookup, nlookup_ndel _ _ _ hk]
        by_cases h : c0 = c
        · simp only [if_pos h]; rfl
        · simp only [if_neg h]; exact hp c d
    | send m sd =>
      have quiet : (m.fromClient && m.isEnableBlob) = false ∨ processEnableBlob (runRev rest) m sd = runRev rest →
          (∀ c d, policyOfRev (.send m sd :: rest) c d = policyOfRev rest c d) → Inv (.send m sd :: rest) (runRev (.send m sd :: rest)) := by
        intro h
        refine same ?_ (fun _ => rfl)
        simp only [runRev, step, process]
        rcases h with h | h
        · rw [h]; rfl
        · split
          · rw [h]
          · rfl
      cases sd with
      | nobody => exact quiet (Or.inr rfl) fun _ _ => rfl
      | dev i => exact quiet (Or.inr rfl) fun _ _ => rfl
      | cli c0 =>
        cases hcond : (m.fromClient && m.isEnableBlob) with
        | false => exact quiet (Or.inl hcond) fun c d => by simp only [policyOfRev, hcond, Bool.false_and, Bool.false_eq_true, if_false]
        | true =>
          cases hl : nlookup c0 (runRev rest).blob with
          | none =>
            have hreg : registered rest c0 = false := by rw [← hr c0, hl]; rfl
            refine quiet (Or.inr (by simp only [processEnableBlob, hl])) fun c d => ?_
            simp only [policyOfRev]
            split
            · rename_i h
              simp only [Bool.and_eq_true, decide_eq_true_eq] at h
              rw [← h.1.1.2, hreg] at h
              cases h.2
            · rfl
          | some t =>
            have hreg : registered rest c0 = true := by rw [← hr c0, hl]; rfl
            have hb : (runRev (.send m (.cli c0) :: rest)).blob = nset c0 (oset m.device m.value t) (runRev rest).blob := by
              simp only [runRev, step, process, hcond, if_true, processEnableBlob, hl]
            refine ⟨hb ▸ keys_nset c0 _ _ hk, fun c => ?_, fun c d => ?_⟩
            · rw [hb, nlookup_nset]
              show _ = registered rest c
              by_cases h : c0 = c
              · rw [if_pos h, ← h, hreg]; rfl
              · rw [if_neg h, hr c]
            · simp only [policyLookup, hb, nlookup_nset, policyOfRev, hcond, Bool.true_and]
              by_cases h : c0 = c
              · subst h
                simp only [if_true, olookup_oset, hreg, Bool.and_true, decide_true, Bool.true_and, decide_eq_true_eq]
                by_cases hd : m.device = d
                · simp only [if_pos hd]; rfl
                · simp only [if_neg hd, ← hp c0 d, policyLookup, hl]
              · simp only [if_neg h, decide_eq_false h, Bool.false_and, Bool.false_eq_true, if_false]
                exact hp c d

theorem deliverCond_eq_allows (b : Bool) (p : Policy) : deliverCond b p = allows p b := by
  cases b <;> cases p <;> rfl

end Indi.Rtr
