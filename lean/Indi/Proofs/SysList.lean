/-
  C01: interleavings.  `l ∈ merges as bs` is the inductive relation `Inter as bs l` (take the next element
  from the left or from the right list); every fact about `merges` is an induction over it.  At the end: lists
  related pointwise (`List.Forall₂`), in the forms the Sys* modules use (`zip_all_iff_forall₂`, `forall₂_map_eq`, …).
-/
import Indi.Model.Sys
import Mathlib.Data.List.Forall2

namespace Indi.SysP
open Indi Indi.Sys

theorem merges_nil_left {α : Type} (bs : List α) : merges [] bs = [bs] := by
  unfold merges; rfl

theorem merges_nil_right {α : Type} (as : List α) : merges as [] = [as] := by
  cases as with
  | nil => exact merges_nil_left []
  | cons a as => unfold merges; rfl

theorem merges_cons_cons {α : Type} (a : α) (as : List α) (b : α) (bs : List α) :
    merges (a :: as) (b :: bs) =
      (merges as (b :: bs)).map (a :: ·) ++ (merges (a :: as) bs).map (b :: ·) := by
  rw [merges]

/-- `l` interleaves `as` and `bs` -/
inductive Inter {α : Type} : List α → List α → List α → Prop
  | nil : Inter [] [] []
  | left {a as bs l} : Inter as bs l → Inter (a :: as) bs (a :: l)
  | right {b as bs l} : Inter as bs l → Inter as (b :: bs) (b :: l)

theorem Inter.nil_left {α : Type} : ∀ bs : List α, Inter [] bs bs
  | [] => .nil
  | _ :: bs => .right (nil_left bs)

theorem Inter.nil_right {α : Type} : ∀ as : List α, Inter as [] as
  | [] => .nil
  | _ :: as => .left (nil_right as)

theorem Inter.eq_of_nil_left {α : Type} {bs l : List α} (h : Inter [] bs l) : l = bs := by
  generalize ha : ([] : List α) = as at h
  induction h with
  | nil => rfl
  | left _ _ => cases ha
  | right _ ih => rw [ih ha]

theorem Inter.eq_of_nil_right {α : Type} {as l : List α} (h : Inter as [] l) : l = as := by
  generalize hb : ([] : List α) = bs at h
  induction h with
  | nil => rfl
  | left _ ih => rw [ih hb]
  | right _ _ => cases hb

theorem mem_merges_iff {α : Type} : ∀ (as bs l : List α), l ∈ merges as bs ↔ Inter as bs l := by
  intro as bs
  induction as, bs using merges.induct with
  | case1 bs =>
    intro l
    rw [merges_nil_left, List.mem_singleton]
    exact ⟨fun h => h ▸ Inter.nil_left bs, Inter.eq_of_nil_left⟩
  | case2 a as =>
    intro l
    rw [merges_nil_right, List.mem_singleton]
    exact ⟨fun h => h ▸ Inter.nil_right _, Inter.eq_of_nil_right⟩
  | case3 a as b bs ih1 ih2 =>
    intro l
    rw [merges_cons_cons, List.mem_append, List.mem_map, List.mem_map]
    constructor
    · rintro (⟨l', hl', rfl⟩ | ⟨l', hl', rfl⟩)
      · exact .left ((ih1 l').1 hl')
      · exact .right ((ih2 l').1 hl')
    · intro h
      cases h with
      | left h => exact Or.inl ⟨_, (ih1 _).2 h, rfl⟩
      | right h => exact Or.inr ⟨_, (ih2 _).2 h, rfl⟩

theorem Inter.mem {α : Type} {as bs l : List α} (h : Inter as bs l) (x : α) : x ∈ l ↔ x ∈ as ∨ x ∈ bs := by
  induction h with
  | nil => simp
  | left _ ih => simp only [List.mem_cons, ih, or_assoc]
  | right _ ih => simp only [List.mem_cons, ih]; exact or_left_comm

theorem Inter.filter {α : Type} (q : α → Bool) {as bs l : List α} (h : Inter as bs l) :
    Inter (as.filter q) (bs.filter q) (l.filter q) := by
  induction h with
  | nil => exact .nil
  | @left a _ _ _ _ ih => simp only [List.filter_cons]; split <;> [exact .left ih; exact ih]
  | @right b _ _ _ _ ih => simp only [List.filter_cons]; split <;> [exact .right ih; exact ih]

theorem Inter.getLast? {α : Type} {as bs l : List α} (h : Inter as bs l) :
    l.getLast? = as.getLast? ∨ l.getLast? = bs.getLast? := by
  induction h with
  | nil => exact Or.inl rfl
  | @left a as bs l h ih =>
    cases l with
    | nil => cases h; exact Or.inl rfl
    | cons x l =>
      rw [List.getLast?_cons_cons]
      rcases ih with ih | ih
      · cases as with
        | nil => rw [h.eq_of_nil_left]; exact Or.inr rfl
        | cons _ _ => rw [List.getLast?_cons_cons]; exact Or.inl ih
      · exact Or.inr ih
  | @right b as bs l h ih =>
    cases l with
    | nil => cases h; exact Or.inr rfl
    | cons x l =>
      rw [List.getLast?_cons_cons]
      rcases ih with ih | ih
      · exact Or.inl ih
      · cases bs with
        | nil => rw [h.eq_of_nil_right]; exact Or.inl rfl
        | cons _ _ => rw [List.getLast?_cons_cons]; exact Or.inr ih

theorem Inter.self_filter {α : Type} (q : α → Bool) : ∀ l : List α, Inter (l.filter fun x => !q x) (l.filter q) l
  | [] => .nil
  | x :: l => by
    simp only [List.filter_cons]
    cases q x
    · exact .left (self_filter q l)
    · exact .right (self_filter q l)

theorem mem_of_mem_merges {α : Type} (as bs l : List α) (h : l ∈ merges as bs) :
    ∀ x, x ∈ l ↔ x ∈ as ∨ x ∈ bs :=
  ((mem_merges_iff as bs l).1 h).mem

theorem filter_mem_merges {α : Type} (q : α → Bool) (as bs l : List α) (h : l ∈ merges as bs) :
    l.filter q ∈ merges (as.filter q) (bs.filter q) :=
  (mem_merges_iff _ _ _).2 (((mem_merges_iff as bs l).1 h).filter q)

theorem getLast?_merges {α : Type} (as bs l : List α) (h : l ∈ merges as bs) :
    l.getLast? = as.getLast? ∨ l.getLast? = bs.getLast? :=
  ((mem_merges_iff as bs l).1 h).getLast?

theorem self_mem_merges_filter {α : Type} (q : α → Bool) : ∀ l : List α,
    l ∈ merges (l.filter fun x => !q x) (l.filter q) :=
  fun l => (mem_merges_iff _ _ _).2 (Inter.self_filter q l)

theorem zip_all_iff_forall₂ {α β : Type} (l : List α) (l' : List β) (P : α × β → Bool) :
    (l'.length = l.length ∧ (l.zip l').all P = true) ↔ List.Forall₂ (fun a b => P (a, b) = true) l l' := by
  rw [List.forall₂_iff_zip]
  simp only [List.all_eq_true]
  constructor
  · rintro ⟨h1, h2⟩
    exact ⟨h1.symm, fun {a b} hab => h2 (a, b) hab⟩
  · rintro ⟨h1, h2⟩
    exact ⟨h1.symm, fun x hx => h2 (a := x.1) (b := x.2) hx⟩

theorem forall₂_map_eq {α β γ : Type} {R : α → β → Prop} {f : α → γ} {g : β → γ} {l : List α} {l' : List β}
    (h : List.Forall₂ R l l') (hfg : ∀ a b, R a b → f a = g b) : l.map f = l'.map g := by
  rw [← List.forall₂_eq_eq_eq, List.forall₂_map_left_iff, List.forall₂_map_right_iff]
  exact h.imp hfg

theorem forall₂_filterMap_eq {α β γ : Type} {R : α → β → Prop} {f : α → Option γ} {g : β → Option γ} {l : List α}
    {l' : List β} (h : List.Forall₂ R l l') (hfg : ∀ a b, R a b → f a = g b) : l.filterMap f = l'.filterMap g := by
  induction h with
  | nil => rfl
  | cons h0 _ ih => simp only [List.filterMap_cons, hfg _ _ h0, ih]

theorem forall₂_mem_right {α β : Type} {R : α → β → Prop} : ∀ {l : List α} {l' : List β}, List.Forall₂ R l l' →
    ∀ b ∈ l', ∃ a, (a, b) ∈ l.zip l' := fun {l l'} h b hb => by
  obtain ⟨i, hi, rfl⟩ := List.mem_iff_getElem.1 hb
  have hi' : i < l.length := h.length_eq ▸ hi
  exact ⟨l[i], List.mem_iff_getElem.2 ⟨i, by rw [List.length_zip]; exact Nat.lt_min.2 ⟨‹_›, ‹_›⟩, by simp⟩⟩

theorem forall₂_mem_left {α β : Type} {R : α → β → Prop} : ∀ {l : List α} {l' : List β}, List.Forall₂ R l l' →
    ∀ a ∈ l, ∃ b, (a, b) ∈ l.zip l' := fun {l l'} h a ha => by
  obtain ⟨i, hi, rfl⟩ := List.mem_iff_getElem.1 ha
  have hi' : i < l'.length := h.length_eq ▸ hi
  exact ⟨l'[i], List.mem_iff_getElem.2 ⟨i, by rw [List.length_zip]; exact Nat.lt_min.2 ⟨‹_›, ‹_›⟩, by simp⟩⟩

end Indi.SysP
