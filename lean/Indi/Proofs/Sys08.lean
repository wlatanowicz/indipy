/-
  Helper lemmas for C08 (Properties/C08.lean).  The client's side: what a client that knows the element makes of an
  update whose parts are well formed (`GoodFor`; the fold `foldVal`, `process_setBlob`), and the arrival of a single
  update at a peer along every schedule (`deliver_setBlob`).  The driver's side: a BLOB property in order (`vecOk`,
  `vecOk08`) stays so when bytes with a format are stored, and its update is read back exactly and consists of
  well-formed parts (`assign_blob`, `SysP.emitted_set'`, `parts_good`).  `publish_core` puts them together.
  The client's side is worked out here, not taken from C01 (`SysP.upd_set`, `SysP.updP_setV_shaped`, `SysP.look_deliver`):
  C01 asks `VG` of the vector and `VWf` of the mirror, and `worldOk08` gives less - nothing on the bytes that sibling
  elements hold, formats on enabled elements only, nothing on the mirror.
  One BLOB part in either direction: Proofs/SysB64.lean; as a peer reads it: `SysP.rdPart_blobPartOf`.
-/
import Indi.Proofs.SysSynced
import Indi.Proofs.SysVec
import Indi.Proofs.SysArr

namespace Indi.Sys
open Indi Indi.Dev Indi.Cli Indi.Spec.Sys Indi.Spec.Dev Indi.Spec.MsgValid

attribute [local simp] s_inj

/-- the value of a BLOB child as the client takes it (`.none` is never used: the parts we feed decode) -/
def blobValOf (p : Part) : CVal :=
  match blobFromPart p with
  | .ok v => v
  | .error _ => .none

/-- what the element keyed `k` holds after the children `ps` were applied, given what it held before -/
def foldVal (k : Option Str) (ps : List Part) (acc : Option CVal) : Option CVal :=
  ps.foldl (fun acc p => if attr p.fields "name" = k ∧ acc.isSome then some (blobValOf p) else acc) acc

/-- children that all decode are applied as the specification's `applyUpdate` does; seen from one key, that fold is
`foldVal` -/
theorem applySet_blob_look (dev vec : Option Str) (ps : List Part) (es : List (Option Str × CElem))
    (h : ∀ p ∈ ps, ∃ nv, blobFromPart p = .ok nv) (k : Option Str) :
    (olook k (applySet .blob dev vec es ps).1).map (·.value) = foldVal k ps ((olook k es).map (·.value)) := by
  have hcv : ∀ p ∈ ps, Spec.Cli.childValue .blob p = some (blobValOf p) := fun p hp => by
    obtain ⟨nv, hnv⟩ := h p hp
    simp only [Spec.Cli.childValue, blobValOf, hnv]
  rw [applySet_ok .blob dev vec ps es fun p hp _ => by rw [hcv p hp]; rfl]
  refine List.foldl_rel (r := fun (es : List (Option Str × CElem)) acc => (olook k es).map (·.value) = acc) rfl
    fun p hp es acc hr => ?_
  subst hr
  dsimp only
  rw [hcv p hp]
  -- the step at a child named `k` stores its value if `k` is known; any other step leaves the entry of `k` alone
  obtain rfl | hk := eq_or_ne (attr p.fields "name") k
  · cases hl : olook (attr p.fields "name") es <;> simp [hl, olook_oput]
  · cases olook (attr p.fields "name") es <;> simp [hk, olook_oput]

theorem foldVal_none (k : Option Str) (ps : List Part) : foldVal k ps none = none := by
  induction ps with
  | nil => rfl
  | cons p ps ih => simpa [foldVal] using ih

theorem foldVal_isSome (k : Option Str) (ps : List Part) : ∀ acc, (foldVal k ps acc).isSome = acc.isSome := by
  induction ps with
  | nil => intro acc; rfl
  | cons p ps ih =>
    intro acc
    simp only [foldVal, List.foldl_cons]
    rw [show List.foldl _ _ ps = foldVal k ps _ from rfl, ih]
    split
    · rename_i h; simp [h.2]
    · rfl

theorem foldVal_const (k : Option Str) (x : CVal) (ps : List Part)
    (hall : ∀ p ∈ ps, attr p.fields "name" = k → blobValOf p = x) (acc : Option CVal) (hacc : acc.isSome = true) :
    (∃ p ∈ ps, attr p.fields "name" = k) ∨ acc = some x → foldVal k ps acc = some x :=
  foldl_hit _ (attr ·.fields "name" = k) (·.isSome = true) (· = some x) ps
    (fun p _ b hb => by split <;> simp [hb])
    (fun p hp hit b hb => by rw [if_pos ⟨hit, hb⟩, hall p hp hit])
    (fun p _ miss b _ hq => by rw [if_neg fun h => miss h.1]; exact hq) acc hacc

/-- the peer knows the element: its mirror has the device, the BLOB property and the element's key -/
def Knows (σ : Mirror) (dev vec n : Str) : Prop :=
  ∃ cd c, olook (some dev) σ = some cd ∧ olook (some vec) cd.vecs = some c ∧ c.kind = .blob ∧
    (olook (some n) c.elems).isSome = true

theorem synced_knows {blobs : Bool} {d : Device} {σ : Mirror} (h : synced blobs d σ = true)
    {gi vi : Nat} {g : Group} {v : Vec} (hgv : getVec d gi vi = some (g, v)) (hen : vecEnabled g v = true)
    (hk : v.kind = .blob) {e : Dev.Elem} (he : e ∈ v.elems) (hee : e.enabled = true) :
    Knows σ d.name v.name e.d.name := by
  obtain ⟨cd, c, h1, h2, h3⟩ := synced_vec h (mem_allVecs hgv) hen
  exact ⟨cd, c, h1, h2, by rw [(vecShown_spec h3).1, hk]; rfl, vecShown_key h3 he hee⟩

/-- a BLOB part that decodes; if it is the part of element `n` it carries the value `x` -/
def GoodFor (n : Str) (x : CVal) (q : Part) : Prop :=
  ∃ nm v bs f, q = blobPart' (some nm) v bs.length (some f) ∧ v.getD [] = B64.encode bs ∧
    (nm = n → (∀ b ∈ bs, b < 256) ∧ x = .blob bs (some f))

theorem attr_name_blobPart' (name v : Option Str) (k : Nat) (f : Option Str) :
    attr (blobPart' name v k f).fields "name" = name := by
  simp [attr, alookup, blobPart']

theorem GoodFor.decodes {n : Str} {x : CVal} {q : Part} (h : GoodFor n x q) : ∃ nv, blobFromPart q = .ok nv := by
  obtain ⟨name, v, bs, f, rfl, hv, _⟩ := h
  obtain ⟨bs', h'⟩ := blobFromPart_read_any (some name) v bs (some f) hv
  exact ⟨_, h'⟩

theorem GoodFor.val {n : Str} {x : CVal} {q : Part} (h : GoodFor n x q) (hn : attr q.fields "name" = some n) :
    blobValOf q = x := by
  obtain ⟨name, v, bs, f, rfl, hv, hx⟩ := h
  rw [attr_name_blobPart'] at hn
  obtain ⟨hb, rfl⟩ := hx (Option.some.inj hn)
  rw [blobValOf, blobFromPart_read _ v bs _ hb hv]

theorem process_setBlob (σ : Mirror) (m : Msg) (dev vname n : Str) (x : CVal)
    (ht : m.tag = s ("set" ++ kindName .blob ++ "Vector"))
    (hdev : attr m.fields "device" = some dev) (hname : attr m.fields "name" = some vname)
    (hK : Knows σ dev vname n)
    (hps : ∀ p ∈ m.children.getD [], GoodFor n x p)
    (hex : ∃ p ∈ m.children.getD [], attr p.fields "name" = some n) :
    Knows (processMessage σ m).mirror dev vname n ∧ mirrorElem (processMessage σ m).mirror dev vname n = some x := by
  obtain ⟨cd, c, h1, h2, h3, h4⟩ := hK
  have hval := applySet_blob_look (some dev) (some vname) (m.children.getD []) c.elems
    (fun p hp => (hps p hp).decodes) (some n)
  rw [foldVal_const (some n) x _ (fun p hp => (hps p hp).val) _ (by simpa using h4) (Or.inl hex)] at hval
  rw [processMessage_update (k := .blob) (by rw [ht]; exact SysP.defKind_set _) (by rw [ht]; exact SysP.setKind_set _)
    (hdev ▸ h1) (hname ▸ h2) h3, hdev, hname]
  have hsome : (olook (some n) (applySet .blob (some dev) (some vname) c.elems (m.children.getD [])).1).isSome = true := by
    rw [← Option.isSome_map (f := fun (ce : CElem) => ce.value), hval]; rfl
  refine ⟨⟨_, { c with state := attr m.fields "state",
                       elems := (applySet .blob (some dev) (some vname) c.elems (m.children.getD [])).1 },
    by rw [olook_oput, if_pos rfl], by simp only [olook_oput, if_true], h3, hsome⟩, ?_⟩
  unfold mirrorElem
  simp only [olook_oput, if_true]
  exact hval

theorem recv_setBlob (p : Peer) {dev : Str} {g : Group} {v : Vec} {m : Msg} (n : Str) (x : CVal)
    (hset : setMsg dev g v = .ok (some m)) (hk : v.kind = .blob) (hm : SysP.Emitted m)
    (hps : ∀ ip, ∀ q ∈ m.children.getD [], GoodFor n x (wirePart ip q))
    (hex : ∃ q ∈ m.children.getD [], attr q.fields "name" = some n)
    (hb : p.blobs = true) (hK : Knows p.mirror dev v.name n) :
    (recv Generated.registry p m).blobs = true ∧ Knows (recv Generated.registry p m).mirror dev v.name n ∧
    mirrorElem (recv Generated.registry p m).mirror dev v.name n = some x := by
  obtain ⟨_, ps, _, ht, _, hdev, hname, _⟩ := SysP.setMsg_some hset
  rw [hk] at ht
  have hrecv := SysP.recv_emitted p m hm
  rw [hb, Bool.not_true, Bool.and_false, if_neg Bool.false_ne_true] at hrecv
  obtain ⟨q, hq, hn⟩ := hex
  -- the peer reads the children one by one (`wirePart`)
  obtain ⟨h1, h2⟩ := process_setBlob p.mirror (SysP.rdm p.inproc m) dev v.name n x (by rw [SysP.rdm_tag, ht])
    (by rw [SysP.rdm_attr _ _ "device" (by simp), hdev]) (by rw [SysP.rdm_attr _ _ "name" (by simp), hname]) hK
    (by rw [SysP.rdm_children]; exact List.forall_mem_map.2 (hps _))
    ⟨wirePart p.inproc q, by rw [SysP.rdm_children]; exact List.mem_map_of_mem hq,
      by rw [SysP.rdPart_attr _ _ "name" (by simp), hn]⟩
  rw [show recv Generated.registry p m = _ from hrecv]
  exact ⟨rfl, h1, h2⟩

/-- twice: an `also` peer gets BLOB updates on both connections -/
theorem arrival_single {p : Peer} {m : Msg} (hm : isSetBlob m = true) {l : List Msg} (hl : SysP.Arrival p [m] l) :
    l = [m] ∨ l = [m, m] := by
  rcases hl.inter with h | h <;> simp only [List.filter, hm, Bool.not_true] at h
  · exact Or.inl h.eq_of_nil_left
  · cases h with
    | left h => exact Or.inr (congrArg (m :: ·) h.eq_of_nil_left)
    | right h => exact Or.inr (congrArg (m :: ·) h.eq_of_nil_right)

theorem arrivals_nil (p : Peer) : arrivals p [] = [[]] := by
  unfold arrivals
  split
  · rfl
  · split <;> simp [SysP.merges_nil_left]

theorem deliver_setBlob (p : Peer) {dev : Str} {g : Group} {v : Vec} {m : Msg} (n : Str) (x : CVal)
    (hset : setMsg dev g v = .ok (some m)) (hk : v.kind = .blob) (hm : SysP.Emitted m)
    (hps : ∀ ip, ∀ q ∈ m.children.getD [], GoodFor n x (wirePart ip q))
    (hex : ∃ q ∈ m.children.getD [], attr q.fields "name" = some n)
    (hK : p.blobs = true → Knows p.mirror dev v.name n) {l : List Msg} (hl : SysP.Arrival p [m] l) :
    mirrorElem (deliver Generated.registry p l).mirror dev v.name n =
      if p.blobs then some x else mirrorElem p.mirror dev v.name n := by
  have hsb : isSetBlob m = true := by rw [SysP.isSetBlob_of_set hset, hk]; rfl
  cases hb : p.blobs with
  | false =>
    have hr : recv Generated.registry p m = p := by simp [recv, hsb, hb]
    rcases arrival_single hsb hl with rfl | rfl <;> simp [deliver, hr]
  | true =>
    have h1 := recv_setBlob p n x hset hk hm hps hex hb (hK hb)
    rcases arrival_single hsb hl with rfl | rfl
    · exact h1.2.2
    · exact (recv_setBlob _ n x hset hk hm hps hex h1.1 h1.2.1).2.2

theorem worldOk08_spec {devs : List Device} (h : worldOk08 devs = true) {d : Device} (hd : d ∈ devs)
    {gi vi : Nat} {g : Group} {v : Vec} (hv : getVec d gi vi = some (g, v)) :
    vecOk v = true ∧ vecOk08 v = true := by
  simp only [worldOk08, Bool.and_eq_true, List.all_eq_true, ← forall_getVec_iff] at h
  exact ⟨((WF_iff _).1 (h d hd).1).1 gi vi g v hv, (h d hd).2 gi vi g v hv⟩

theorem vecOk08_spec {v : Vec} (h : vecOk08 v = true) (hk : v.kind = .blob) :
    (∀ e ∈ v.elems, e.enabled = true → DevB.hasFormat e.value = true) ∧ ((enabledElems v).map (·.d.name)).Nodup := by
  simp only [vecOk08, hk, bne_self_eq_false, Bool.false_or, Bool.and_eq_true, List.all_eq_true, Bool.or_eq_true,
    Bool.not_eq_true', decide_eq_true_eq] at h
  refine ⟨fun e he hen => ?_, h.2⟩
  have := (h.1 e he).resolve_left (by simp [hen])
  cases hv : e.value with
  | blob bs f => rw [hv] at this; cases f <;> first | rfl | cases this
  | _ => rfl

theorem map_set_same {α β : Type} (f : α → β) {l : List α} {i : Nat} {e a : α} (he : l[i]? = some e) (h : f a = f e) :
    (l.set i a).map f = l.map f := by
  obtain ⟨hlt, rfl⟩ := List.getElem?_eq_some_iff.1 he
  rw [List.map_set, h, ← List.getElem_map f (h := by simpa using hlt), List.set_getElem_self]

theorem vecOk08_store {v : Vec} {ei : Nat} {e : Dev.Elem} (he : v.elems[ei]? = some e) (bs : List Nat) (f : Str)
    (h : vecOk08 v = true) : vecOk08 { v with elems := v.elems.set ei { e with value := .blob bs (some f) } } = true := by
  have hst : SysP.Static v { v with elems := v.elems.set ei { e with value := .blob bs (some f) } } :=
    ⟨rfl, rfl, rfl, map_set_same SysP.core he rfl⟩
  simp only [vecOk08, Bool.or_eq_true, Bool.and_eq_true, List.all_eq_true, decide_eq_true_eq] at h ⊢
  refine h.imp id fun ⟨h1, h2⟩ => ⟨fun e' he' => ?_, hst.names ▸ h2⟩
  rcases List.mem_or_eq_of_mem_set he' with hm | rfl
  · exact h1 e' hm
  · simp [blobValOk]

theorem assign_blob (d : Device) (a : Addr) (bs : List Nat) (f : Option Str) (g : Group) (v : Vec) (e : Dev.Elem)
    (hv : getVec d a.g a.v = some (g, v)) (he : v.elems[a.e]? = some e) (hk : v.kind = .blob)
    (hok : vecOk v = true) :
    vecOk { v with elems := v.elems.set a.e { e with value := .blob bs f } } = true ∧
    ∃ mo, setMsg d.name g { v with elems := v.elems.set a.e { e with value := .blob bs f } } = .ok mo ∧
      (assign d a (.blob bs f)).dev = setVec d a.g a.v { v with elems := v.elems.set a.e { e with value := .blob bs f } } ∧
      (assign d a (.blob bs f)).msgs = mo.toList := by
  have hc : checkValue v a.e (.blob bs f) = .ok (v, .blob bs f) := by
    unfold checkValue; rw [hk]
  have ht : typeOk v.kind (.blob bs f) = true := by rw [hk]; rfl
  have hok2 : vecOk _ = true :=
    asgV2_eq he _ ▸ (Stores.shape (gi := 0) (vi := 0) ⟨e, v, _, he, ht, hc, rfl⟩).ok hok
  obtain ⟨mo, hmo⟩ := SysP.setMsg_ok d.name g hok2
  obtain ⟨h1, h2⟩ := assign_exact d a _ g v e hv he ht hc fun e' he' _ =>
    elemOk_blob_noRefresh (hk ▸ vecOk_elems hok e' he')
  exact ⟨hok2, mo, hmo, h1, h2 mo hmo⟩

theorem good_blobPartOf (ip : Bool) (e : Dev.Elem) (hv : valueOk .blob (readValue e) = true)
    (hf : DevB.hasFormat (readValue e) = true) (n : Str) (bs : List Nat) (f : Str)
    (hx : e.d.name = n → readValue e = .blob bs (some f) ∧ ∀ b ∈ bs, b < 256) :
    GoodFor n (.blob bs (some f)) (wirePart ip (blobPartOf e)) := by
  obtain ⟨v, bs', f', hp, hv', hr | ⟨hr, rfl, rfl⟩⟩ := SysP.rdPart_blobPartOf ip e hv
  · -- a value: its format is there (`hf`)
    rw [hr] at hf hx
    cases f' with
    | none => cases hf
    | some f' =>
      refine ⟨e.d.name, v, bs', f', hp, hv', fun hn => ?_⟩
      obtain ⟨h1, h2⟩ := hx hn
      cases h1
      exact ⟨h2, rfl⟩
  · -- unset: no bytes, format ""; this is not the element that holds `bs`
    exact ⟨e.d.name, v, [], [], hp, hv', fun hn => by rw [hr] at hx; cases (hx hn).1⟩

theorem setMsg_blob_children {dn : Str} {g : Group} {v : Vec} {m : Msg} (hk : v.kind = .blob) (hok : vecOk v = true)
    (hset : setMsg dn g v = .ok (some m)) : m.children.getD [] = (enabledElems v).map blobPartOf := by
  obtain ⟨_, ps, hps, _, hch, _⟩ := SysP.setMsg_some hset
  have := mapParts_ok_iff.1 hps
  rw [hk, List.map_congr_left (g := fun e => .ok (blobPartOf e)) fun e he =>
    onePart_blob_ok e (readValue_ok (hk ▸ vecOk_elems hok e (List.mem_filter.1 he).1))] at this
  rw [hch, Option.getD_some]
  exact (List.map_injective_iff.2 (fun _ _ => Except.ok.inj) ((List.map_map ..).trans this)).symm

theorem parts_good {dn : Str} {g : Group} {v : Vec} {m : Msg} (hok : vecOk v = true) (h08 : vecOk08 v = true)
    (hk : v.kind = .blob) (hset : setMsg dn g v = .ok (some m)) {i : Nat} {e : Dev.Elem} (he : v.elems[i]? = some e)
    (hen : e.enabled = true) {bs : List Nat} {f : Str} (hval : e.value = .blob bs (some f)) (hb : ∀ b ∈ bs, b < 256) :
    (∀ ip, ∀ q ∈ m.children.getD [], GoodFor e.d.name (.blob bs (some f)) (wirePart ip q)) ∧
    (∃ q ∈ m.children.getD [], attr q.fields "name" = some e.d.name) := by
  obtain ⟨hfmt, hnd⟩ := vecOk08_spec h08 hk
  rw [setMsg_blob_children hk hok hset]
  refine ⟨fun ip => List.forall_mem_map.2 fun e' he' => ?_,
    _, List.mem_map_of_mem (List.mem_filter.2 ⟨List.mem_of_getElem? he, hen⟩), SysP.attr_name_blobPartOf e⟩
  obtain ⟨hm, hen'⟩ := List.mem_filter.1 he'
  have hok' : elemOk .blob e' = true := hk ▸ vecOk_elems hok e' hm
  have hr := readValue_blob hok'
  refine good_blobPartOf ip e' (readValue_ok hok') (hr ▸ hfmt e' hm hen') _ bs f fun hnm => ?_
  -- names are distinct: an enabled element of this name is `e` itself
  obtain ⟨j, hj⟩ := List.mem_iff_getElem?.1 hm
  cases idx_of_nodup_filter (·.enabled) (·.d.name) v.elems hnd j i e' e hj he hen' hen hnm
  cases hj.symm.trans he
  exact ⟨hr.trans hval, hb⟩

theorem c08Holds_blob {allowed : Bool} {d : Device} {gi vi ei : Nat} {before after : Mirror} {g : Group} {v : Vec}
    {e : Dev.Elem} {bs : List Nat} {f : Option Str} (hv : getVec d gi vi = some (g, v)) (he : v.elems[ei]? = some e)
    (hr : readValue e = .blob bs f)
    (h : vecEnabled g v = true → e.enabled = true → mirrorElem after d.name v.name e.d.name =
      if allowed then some (.blob bs f) else mirrorElem before d.name v.name e.d.name) :
    c08Holds allowed d gi vi ei before after = true := by
  unfold c08Holds
  simp only [hv, he, hr]
  split
  · rfl
  · rename_i hen
    simp only [Bool.or_eq_true, Bool.not_eq_true', not_or, Bool.not_eq_false] at hen
    rw [h hen.1 hen.2]
    cases allowed <;> simp

/-- **C08** (deployment), with the addressed element made explicit -/
theorem publish_core (w w' : World) (di : Nat) (d : Device) (a : Addr) (bs : List Nat) (f : Str)
    (hok : worldOk08 w.devs = true) (hs : allSynced w = true) (hd : w.devs[di]? = some d)
    (hb : ∀ b ∈ bs, b < 256)
    (g : Group) (v : Vec) (e : Dev.Elem) (hv : getVec d a.g a.v = some (g, v)) (he : v.elems[a.e]? = some e)
    (hk : v.kind = .blob)
    (hn : nextOk Generated.registry w (.driver di (.assign a (.blob bs (some f)))) w' = true) :
    ∀ pp ∈ w.peers.zip w'.peers, ∀ d', w'.devs[di]? = some d' →
      c08Holds pp.1.blobs d' a.g a.v a.e pp.1.mirror pp.2.mirror = true := by
  have hdm : d ∈ w.devs := List.mem_of_getElem? hd
  obtain ⟨hvok, h08⟩ := worldOk08_spec hok hdm hv
  -- the driver: the property with the bytes stored is still in order, and its update is what is published
  obtain ⟨hok2, mo, hmo, hdev, hmsgs⟩ := assign_blob d a bs (some f) g v e hv he hk hvok
  have h082 := vecOk08_store he bs f h08
  have he2 : (v.elems.set a.e { e with value := .blob bs (some f) })[a.e]? = some { e with value := .blob bs (some f) } :=
    List.getElem?_set_self (List.getElem?_eq_some_iff.1 he).1
  have hdi : di < w.devs.length := (List.getElem?_eq_some_iff.1 hd).1
  obtain ⟨hds, hdel⟩ := SysP.nextOk_unpack hn
  simp only [react, hd, Dev.step] at hds hdel
  rintro ⟨p, p'⟩ hpp d' hd'
  rw [hds, List.getElem?_set, if_pos rfl, if_pos hdi, Option.some.injEq] at hd'
  subst hd'
  obtain ⟨L, hL, rfl⟩ := (List.forall₂_iff_zip.1 hdel).2 hpp
  rw [hdev]
  refine c08Holds_blob (getVec_setVec_same hv) he2
    (readValue_blob (hk ▸ vecOk_elems hok2 _ (List.mem_of_getElem? he2))) fun hven heen => ?_
  -- the property is enabled: its update is published, and a network peer reads its canonical form
  obtain ⟨m, rfl⟩ : ∃ m, mo = some m := by
    cases mo with
    | some m => exact ⟨m, rfl⟩
    | none => have := SysP.setMsg_none_iff hmo; rw [show vecEnabled g _ = true from hven] at this; cases this
  obtain ⟨hgood, hex⟩ := parts_good hok2 h082 hk hmo he2 heen rfl hb
  have hK : p.blobs = true → Knows p.mirror d.name v.name e.d.name := fun _ => by
    simp only [allSynced, List.all_eq_true, peerSynced, Bool.and_eq_true] at hs
    exact synced_knows ((hs p (List.of_mem_zip hpp).1).1 d hdm) hv hven hk (List.mem_of_getElem? he) heen
  exact deliver_setBlob p e.d.name (.blob bs (some f)) hmo hk (SysP.emitted_set' hok2 (vecOk08_spec h082 hk).1 hmo)
    hgood hex hK (by rw [hmsgs] at hL; exact hL)

end Indi.Sys
