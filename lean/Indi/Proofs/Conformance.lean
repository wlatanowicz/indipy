/-
  Generic half of C13: for every class table that passes the decidable check
  `regConf` (each class's guards imply the protocol requirements written in
  `Spec/Msg.lean`), whatever `fromXml` accepts is conformant.
-/
import Indi.Proofs.Construct
import Indi.Spec.Msg

namespace Indi
open Spec Indi.Spec.MsgValid Indi.C03

/-- `true` when the stored value of `f` cannot be `None`, given that every keyword a parser passes
(other than `value`) is not `None` -/
def guardNonNone (c : ClassSpec) (f : FieldSpec) : Bool :=
  match f.guard with
  | .oneOf vals => !vals.contains none
  | .any | .number =>
    (match f.source with
     | some p => c.required.contains p && p ≠ s "value"
     | none => false)
  | .children _ => false

def guardWithin (vals : List Str) (f : FieldSpec) : Bool :=
  match f.guard with
  | .oneOf vs => vs.all fun o => match o with
      | some x => vals.contains x
      | none => false
  | _ => false

def guardNumber (f : FieldSpec) : Bool :=
  match f.guard with
  | .number => true
  | _ => false

def guardChildrenOnly (t : Str) (f : FieldSpec) : Bool :=
  match f.guard with
  | .children tags => tags.all fun x => x = t
  | _ => false

def fieldWith (c : ClassSpec) (k : Str) (P : FieldSpec → Bool) : Bool :=
  c.fields.any fun f => f.name = k && P f

def valueConf (c : ClassSpec) : ValueReq → Bool
  | .free => true
  | .vocab vals => fieldWith c (s "value") (guardWithin vals)
  | .numberOrAbsent => fieldWith c (s "value") guardNumber

def classWf (c : ClassSpec) : Bool := decide (c.fields.map (·.name)).Nodup

def partConf (c : ClassSpec) (r : PartReq) : Bool :=
  classWf c && r.required.all (fun k => k ≠ s "children" && fieldWith c k (guardNonNone c)) && valueConf c r.value

def msgConf (c : ClassSpec) (r : MsgReq) : Bool :=
  classWf c &&
  r.required.all (fun k => k ≠ s "children" && fieldWith c k (guardNonNone c)) &&
  r.vocab.all (fun (kv : Str × List Str) => kv.1 ≠ s "children" && fieldWith c kv.1 (guardWithin kv.2)) &&
  valueConf c r.value &&
  (match r.childTag with
   | none => c.fields.all fun f => f.name ≠ s "children"
   | some t => fieldWith c (s "children") (guardChildrenOnly t) && (findPartReq t).isSome)

/-- the decidable link between a class table and the protocol requirements -/
def regConf (reg : Registry) : Bool :=
  reg.messages.all (fun c => match findMsgReq c.tag with
    | some r => msgConf c r
    | none => false) &&
  reg.parts.all (fun c => match findPartReq c.tag with
    | some r => partConf c r
    | none => true)

theorem regConf_unpack {reg : Registry} (h : regConf reg = true) :
    (∀ c ∈ reg.messages, ∃ r, findMsgReq c.tag = some r ∧ msgConf c r = true) ∧
    (∀ c ∈ reg.parts, ∀ r, findPartReq c.tag = some r → partConf c r = true) := by
  simp only [regConf, Bool.and_eq_true, List.all_eq_true] at h
  refine ⟨fun c hc => ?_, fun c hc r hr => ?_⟩
  · have := h.1 c hc
    split at this
    · exact ⟨_, ‹_›, this⟩
    · cases this
  · have := h.2 c hc
    rwa [hr] at this

theorem fieldWith_elim {c : ClassSpec} {k : Str} {P : FieldSpec → Bool} (h : fieldWith c k P = true) :
    ∃ f ∈ c.fields, f.name = k ∧ P f = true := by
  simpa only [fieldWith, List.any_eq_true, Bool.and_eq_true, decide_eq_true_eq] using h

theorem conf_view {c : ClassSpec} {kw : List (Str × PyVal)} {m : Msg} (h : construct c kw = .ok m)
    (hwf : classWf c = true) {k : Str} (hk : k ≠ s "children") {P : FieldSpec → Bool} (hconf : fieldWith c k P = true) :
    ∃ f o, P f = true ∧ checkGuard f.guard (kwGet kw f.source) = .ok (toPy o) ∧ alookup k m.fields = some o := by
  obtain ⟨f, hf, rfl, hp⟩ := fieldWith_elim hconf
  obtain ⟨o, hv, hl⟩ := field_view h (by simpa [classWf] using hwf) hf hk
  exact ⟨f, o, hp, hv, hl⟩

theorem present_of_conf {c : ClassSpec} {kw : List (Str × PyVal)} {m : Msg} (h : construct c kw = .ok m)
    (hwf : classWf c = true) {isPart : Bool} {ps : List Part} (hkw : KwFrom isPart ps kw) {k : Str}
    (hk : k ≠ s "children") (hconf : fieldWith c k (guardNonNone c) = true) : present m.fields k = true := by
  obtain ⟨f, o, hg, hv, hl⟩ := conf_view h hwf hk hconf
  unfold present
  rw [hl]
  cases o with
  | some x => rfl
  | none =>
    -- `None` was stored: the guard lets it through, or a required keyword was `None`
    exfalso
    unfold guardNonNone at hg
    have hng : ∀ tags, f.guard ≠ .children tags := fun tags e => by simp [e] at hg
    obtain ⟨hvx, hgo⟩ := checkGuard_scalar hng hv
    have hsrc : ∀ p, f.source = some p → c.required.contains p = true → p ≠ s "value" → False := fun p hp hc hne =>
      hne (hkw.none ((construct_inv h).2.1 p (by simpa using hc)) (hp ▸ hvx)).2
    cases hgu : f.guard with
    | oneOf vals => rw [hgu] at hg hgo; simp_all [guardOk]
    | children tags => exact hng tags hgu
    | any | number =>
      rw [hgu] at hg
      cases hs : f.source with
      | none => simp [hs] at hg
      | some p =>
        simp only [hs, Bool.and_eq_true, decide_eq_true_eq] at hg
        exact hsrc p hs hg.1 hg.2

theorem member_of_conf {c : ClassSpec} {kw : List (Str × PyVal)} {m : Msg} (h : construct c kw = .ok m)
    (hwf : classWf c = true) {k : Str} {vals : List Str} (hk : k ≠ s "children")
    (hconf : fieldWith c k (guardWithin vals) = true) : member m.fields k vals = true := by
  obtain ⟨f, o, hg, hv, hl⟩ := conf_view h hwf hk hconf
  unfold member
  rw [hl]
  unfold guardWithin at hg
  cases hgu : f.guard with
  | oneOf vs =>
    rw [hgu] at hg hv
    have := List.all_eq_true.1 hg o (List.contains_iff_mem.1 (checkGuard_scalar (fun _ e => Guard.noConfusion e) hv).2)
    cases o with
    | none => cases this
    | some x => exact this
  | any | number | children _ => rw [hgu] at hg; cases hg

theorem valueOk_of_conf {c : ClassSpec} {kw : List (Str × PyVal)} {m : Msg} (h : construct c kw = .ok m)
    (hwf : classWf c = true) {r : ValueReq} (hconf : valueConf c r = true) : valueOk m.fields r = true := by
  cases r with
  | free => rfl
  | vocab vals => exact member_of_conf h hwf C03.value_ne_children hconf
  | numberOrAbsent =>
    obtain ⟨f, o, hg, hv, hl⟩ := conf_view h hwf C03.value_ne_children hconf
    simp only [valueOk, hl]
    unfold guardNumber at hg
    cases hgu : f.guard with
    | number =>
      rw [hgu] at hv
      have := (checkGuard_scalar (fun _ e => Guard.noConfusion e) hv).2
      cases o with
      | none => rfl
      | some x => exact this
    | any | oneOf _ | children _ => rw [hgu] at hg; cases hg

theorem part_conformant {reg : Registry} (hreg : regConf reg = true) {x : Elem1} {p : Part}
    (h : partFromXml reg x = .ok p) {r : PartReq} (hr : findPartReq p.tag = some r) :
    conformantPart p = true := by
  obtain ⟨c, m, hc, hm, rfl⟩ := partFromXml_inv h
  have htag : m.tag = c.tag := (construct_inv hm).2.2.1
  have hpc := (regConf_unpack hreg).2 c (findClass_spec hc).1 r (htag ▸ hr)
  simp only [partConf, Bool.and_eq_true, List.all_eq_true, decide_eq_true_eq] at hpc
  obtain ⟨⟨hwf, hreqs⟩, hval⟩ := hpc
  unfold conformantPart
  simp only [hr, Bool.and_eq_true, List.all_eq_true]
  exact ⟨fun k hk => present_of_conf hm hwf (partKw_from x) (hreqs k hk).1 (hreqs k hk).2, valueOk_of_conf hm hwf hval⟩

/-- **generic C13**: with a class table whose guards imply the protocol
requirements, every message `fromXml` accepts is conformant -/
theorem fromXml_conformant {reg : Registry} (hreg : regConf reg = true) (x : Elem) (m : Msg)
    (h : fromXml reg x = .ok m) : conformant m = true := by
  obtain ⟨c, ps, hc, hps, h⟩ := fromXml_inv h
  have htag : m.tag = c.tag := (construct_inv h).2.2.1
  obtain ⟨r, hr, hmc⟩ := (regConf_unpack hreg).1 c (findClass_spec hc).1
  simp only [msgConf, Bool.and_eq_true, List.all_eq_true, decide_eq_true_eq] at hmc
  obtain ⟨⟨⟨⟨hwf, hreqs⟩, hvocab⟩, hval⟩, hchild⟩ := hmc
  have hkw := msgKw_from x ps
  unfold conformant
  rw [htag, hr]
  simp only [Bool.and_eq_true, List.all_eq_true]
  refine ⟨⟨⟨fun k hk => present_of_conf h hwf hkw (hreqs k hk).1 (hreqs k hk).2,
    fun kv hkv => member_of_conf h hwf (hvocab kv hkv).1 (hvocab kv hkv).2⟩, valueOk_of_conf h hwf hval⟩, ?_⟩
  obtain ⟨hch1, hch2⟩ := children_view h (by simpa [classWf] using hwf) hkw
  cases hrt : r.childTag with
  | none =>
    rw [hrt] at hchild
    simp only [List.all_eq_true, decide_eq_true_eq] at hchild
    rw [hch2 hchild]
  | some t =>
    rw [hrt] at hchild
    simp only [Bool.and_eq_true] at hchild
    obtain ⟨f, hf, hn, hp⟩ := fieldWith_elim hchild.1
    unfold guardChildrenOnly at hp
    cases hgu : f.guard with
    | any | oneOf _ | number => rw [hgu] at hp; cases hp
    | children tags =>
      rw [hgu] at hp
      obtain ⟨qs, hmq, hall⟩ := hch1 f hf hn tags hgu
      rw [hmq]
      simp only [List.all_eq_true, Bool.and_eq_true, decide_eq_true_eq] at hp ⊢
      intro p hp'
      have hpt : p.tag = t := hp _ (by simpa using (hall p hp').1)
      obtain ⟨x1, hx1⟩ := partsFromXml_mem hps p (hall p hp').2
      obtain ⟨pr, hpr⟩ := Option.isSome_iff_exists.mp (hpt ▸ hchild.2 : (findPartReq p.tag).isSome = true)
      exact ⟨hpt, part_conformant hreg hx1 hpr⟩

end Indi
