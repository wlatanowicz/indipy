/-
  One writer for every layout.  The library's own writer (`serElem`) and the foreign spellings (`spellElem sp`) differ
  in white space, quotes, attribute order and in how they escape; `layElem L` is a writer in which all of that is a
  parameter, and everything the framing and round-trip theorems need is proved once, about `layElem`: the automaton
  reads `layElem L e` back as `spelled L.toStyle e` (`run_layElem`), and `layElem L e` has what `Buf.Admissible` asks
  of a body.
-/
import Indi.Spec.XmlSpell
import Indi.Proofs.XmlDoc

namespace Indi.Xml
open Doc

/-- a spelling style whose escaping functions, and whose white space before `/>`, are free -/
structure Lay extends Style where
  escA : Char → Str          -- one character of an attribute value
  escT : Str → Str           -- character data
  emptyLead : Str            -- white space before the `/>` (or `></t>`) of an element without content

def layAttr (L : Lay) (kv : Str × Str) : Str :=
  L.attrLead ++ kv.1 ++ L.eqL ++ ['='] ++ L.eqR ++ [quoteOf L.toStyle] ++ kv.2.flatMap L.escA ++ [quoteOf L.toStyle]

/-- an element whose children are written already (`kids`; empty for none), after its `<` -/
def layBody (L : Lay) (tag : Str) (attrs : List (Str × Str)) (text kids : Str) : Str :=
  tag ++ ((ordered L.toStyle attrs).flatMap (layAttr L) ++
    (if text.isEmpty && kids.isEmpty then
      L.emptyLead ++ (if L.explicitEmpty then '>' :: spellEnd L.toStyle tag else ['/', '>'])
     else L.tagEnd ++ '>' :: (L.escT text ++ (kids ++ spellEnd L.toStyle tag))))

def layNode (L : Lay) (tag : Str) (attrs : List (Str × Str)) (text kids : Str) : Str :=
  '<' :: layBody L tag attrs text kids

def layElem1 (L : Lay) (c : Elem1) : Str := layNode L c.tag c.attrs c.text []

def layKids (L : Lay) (l : List Elem1) : Str :=
  l.flatMap (fun c => L.indent ++ layElem1 L c) ++ (if l.isEmpty then [] else L.closeIndent)

def layElem (L : Lay) (e : Elem) : Str := layNode L e.tag e.attrs e.text (layKids L e.children)

/-- what the automaton needs of a layout -/
structure Lay.Ok (L : Lay) : Prop where
  style : L.toStyle.ok = true
  emptyLead : L.emptyLead.all isS = true
  escA : ∀ c, xmlChar c = true → Esc (plainAttr (quoteOf L.toStyle)) c (L.escA c)
  escT : ∀ t, textOk t = true → ∃ br, ReadsText 0 (L.escT t) t br
  escT_noLt : ∀ t, textOk t = true → noLt (L.escT t) = true

theorem layKids_isEmpty (L : Lay) (l : List Elem1) : (layKids L l).isEmpty = l.isEmpty := by
  cases l <;> simp [layKids, layElem1, layNode]

theorem layElem_starts (L : Lay) (e : Elem) : ('<' :: e.tag) <+: layElem L e := ⟨_, rfl⟩

/-- `Style.ok`, fact by fact -/
structure Style.Ws (sp : Style) : Prop where
  attrLead : sp.attrLead.all isS = true
  attrLead_ne : sp.attrLead ≠ []
  eqL : sp.eqL.all isS = true
  eqR : sp.eqR.all isS = true
  tagEnd : sp.tagEnd.all isS = true
  closeWs : sp.closeWs.all isS = true
  indent : sp.indent.all isS = true
  indent_cr : sp.indent.contains '\r' = false
  closeIndent : sp.closeIndent.all isS = true

theorem Style.ws_of_ok {sp : Style} (h : sp.ok = true) : sp.Ws := by
  simp only [Style.ok, Bool.and_eq_true, Bool.not_eq_true'] at h
  obtain ⟨⟨⟨⟨⟨⟨⟨⟨p1, p2⟩, p3⟩, p4⟩, p5⟩, p6⟩, p7⟩, p8⟩, p9⟩ := h
  exact ⟨p2, by intro e; rw [e] at p1; simp at p1, p3, p4, p5, p6, p7, p9, p8⟩

theorem Lay.Ok.ws {L : Lay} (hL : L.Ok) : L.toStyle.Ws := Style.ws_of_ok hL.style

theorem quoteOf_cases (sp : Style) : quoteOf sp = '"' ∨ quoteOf sp = '\'' := by
  unfold quoteOf; cases sp.single <;> simp

theorem attrsOk_ordered (sp : Style) (l : List (Str × Str)) (h : attrsOk l = true) : attrsOk (ordered sp l) = true := by
  unfold ordered
  split
  · simp only [attrsOk, Bool.and_eq_true, nodupKeys_iff] at *
    exact ⟨by simpa using h.1, List.pairwise_reverse.mpr (h.2.imp fun hab e => hab e.symm)⟩
  · exact h

def ord1 (sp : Style) (c : Elem1) : Elem1 := { c with attrs := ordered sp c.attrs }

theorem spellEnd_eq (sp : Style) (tag : Str) : spellEnd sp tag = '<' :: '/' :: (tag ++ (sp.closeWs ++ ['>'])) := by
  simp [spellEnd]

theorem run_closing {sp : Style} (hcw : sp.closeWs.all isS = true) {ws : Str} (hws : ws.all isS = true) {tag : Str}
    (ht : isName tag = true) {hk : Bool} (hf : hk = false → ws = []) (br ats tx kd stk d) :
    run ⟨.text br, ⟨tag, ats, tx, kd, hk⟩ :: stk, d, false⟩ (ws ++ spellEnd sp tag) =
      St.close ⟨.misc, ⟨tag, ats, tx, kd, hk⟩ :: stk, d, false⟩ := by
  rw [spellEnd_eq, run_indent hws (fun h => by rw [hf h]; rfl), run_endTag hcw ht]
  cases hk with
  | true => rfl
  | false => rw [hf rfl]; simp

theorem noBangQ_spellEnd (sp : Style) (hcw : sp.closeWs.all isS = true) (t rest : Str) (ht : isName t = true) :
    noBangQ (spellEnd sp t ++ rest) = noBangQ rest := by
  rw [spellEnd_eq]
  simp only [List.cons_append, List.append_assoc, List.nil_append]
  rw [noBangQ_closeTag _ _ ht, noBangQ_noLt_append _ _ (noLt_ws _ hcw), noBangQ_cons_ne _ _ (by decide)]

theorem spellEnd_ending (sp : Style) (hcw : sp.closeWs.all isS = true) (t : Str) (ht : isName t = true) :
    ∃ pre c, spellEnd sp t = pre ++ [c, '>'] ∧ c ≠ '>' := by
  obtain ⟨a, cs, rfl, h1, h2⟩ := isName_facts t ht
  have hall := isName_all _ ht
  obtain ⟨pre, c, e, hc⟩ := ends_not_gt ((a :: cs) ++ sp.closeWs) (by simp) (by
    intro c hc
    rcases List.mem_append.mp hc with hc | hc
    · exact ne_of_class (List.all_eq_true.mp hall c hc) '>'
    · exact ne_of_class (List.all_eq_true.mp hcw c hc) '>')
  refine ⟨'<' :: '/' :: pre, c, ?_, hc⟩
  rw [spellEnd_eq, ← List.append_assoc, e]
  simp

section
variable {L : Lay} (hL : L.Ok)
include hL

theorem run_layVal (v : Str) (h : safeChars v = true) (name acc stk d) :
    run ⟨.attrVal name (quoteOf L.toStyle) acc, stk, d, false⟩ (v.flatMap L.escA) =
      ⟨.attrVal name (quoteOf L.toStyle) (v.reverse ++ acc), stk, d, false⟩ := by
  induction v generalizing acc with
  | nil => rfl
  | cons c cs ih =>
    obtain ⟨h1, h2⟩ := all_cons h
    rw [List.flatMap_cons, run_append, run_attr_esc _ (quoteOf_cases _) c h1 _ (hL.escA c h1), ih h2]
    simp

theorem run_layAttr (k v : Str) (hk : isName k = true) (hx : k ≠ s "xmlns")
    (hv : safeChars v = true) (b f stk d) (hd : (f.attrs.any fun kv => kv.1 = k) = false) :
    run ⟨.tagSpace b, f :: stk, d, false⟩ (layAttr L (k, v)) =
      ⟨.tagSpace false, { f with attrs := f.attrs ++ [(k, v)] } :: stk, d, false⟩ := by
  obtain ⟨c, cs, rfl, h1, h2⟩ := isName_facts k hk
  have s0 : run ⟨.tagSpace b, f :: stk, d, false⟩ L.attrLead = ⟨.tagSpace true, f :: stk, d, false⟩ := by
    rw [run_tagSpace_ws hL.ws.attrLead]; simp [hL.ws.attrLead_ne]
  have s1 : step ⟨.tagSpace true, f :: stk, d, false⟩ c = ⟨.attrName [c], f :: stk, d, false⟩ := by
    simp [step, stepMode, h1, nameChar_facts c (nameStart_nameChar c h1)]
  have s2 := run_attrName_eq hL.ws.eqL (acc := cs.reverse ++ [c]) (f := f) (by simpa using hx) (by simpa using hd)
  have s3 : ∀ name, step ⟨.attrQuote name, f :: stk, d, false⟩ (quoteOf L.toStyle) =
      ⟨.attrVal name (quoteOf L.toStyle) [], f :: stk, d, false⟩ := by
    intro name; rcases quoteOf_cases L.toStyle with e | e <;> rw [e] <;> rfl
  have s5 : ∀ name acc, step ⟨.attrVal name (quoteOf L.toStyle) acc, f :: stk, d, false⟩ (quoteOf L.toStyle) =
      ⟨.tagSpace false, { f with attrs := f.attrs ++ [(name, acc.reverse)] } :: stk, d, false⟩ := by
    intro name acc; rcases quoteOf_cases L.toStyle with e | e <;> rw [e] <;> rfl
  unfold layAttr
  simp only [List.append_assoc, List.cons_append, List.nil_append]
  rw [run_append, s0, run_cons, s1, run_append, run_name .attrName (.inr (.inl rfl)) cs h2, s2, run_append,
    run_ws rfl hL.ws.eqR, run_cons, s3, run_append, run_layVal hL v hv, run_cons, s5]
  simp

theorem run_layAttrs (l : List (Str × Str))
    (hok : ∀ kv ∈ l, isName kv.1 = true ∧ kv.1 ≠ s "xmlns" ∧ safeChars kv.2 = true) (b f stk d)
    (hnd : (f.attrs ++ l).Pairwise (fun a b => a.1 ≠ b.1)) :
    ∃ b', run ⟨.tagSpace b, f :: stk, d, false⟩ (l.flatMap (layAttr L)) =
      ⟨.tagSpace b', { f with attrs := f.attrs ++ l } :: stk, d, false⟩ := by
  induction l generalizing b f with
  | nil => exact ⟨b, by simp⟩
  | cons kv l ih =>
    obtain ⟨g1, g2, g3⟩ := hok kv (by simp)
    have hd : (f.attrs.any fun kv' => kv'.1 = kv.1) = false := by
      simpa using fun k v hkv => (List.pairwise_append.mp hnd).2.2 (k, v) hkv kv (by simp)
    obtain ⟨b', ih'⟩ := ih (fun kv' h' => hok kv' (by simp [h'])) false { f with attrs := f.attrs ++ [kv] }
      (by simpa using hnd)
    exact ⟨b', by rw [List.flatMap_cons, run_append, run_layAttr hL kv.1 kv.2 g1 g2 g3 b f stk d hd, ih']; simp⟩

theorem run_open {tag : Str} (ht : isName tag = true) {l : List (Str × Str)} (ha : attrsOk l = true)
    {ws : Str} (hws : ws.all isS = true) {c : Char} {m : Mode} (hc : c = '>' ∧ m = .text 0 ∨ c = '/' ∧ m = .emptyClose)
    (b stk cr) (rest : Str) :
    run ⟨.lt b, stk, none, cr⟩ (tag ++ (l.flatMap (layAttr L) ++ (ws ++ c :: rest))) =
      run ⟨m, ⟨tag, l, [], [], false⟩ :: stk, none, false⟩ rest := by
  obtain ⟨a1, a2⟩ := attrsOk_facts l ha
  rw [run_append, run_lt_name tag ht]
  -- the first character after the name opens the element
  have hhead : ∃ y ys, (l.flatMap (layAttr L) ++ (ws ++ c :: rest)) = y :: ys ∧
      (isS y = true ∨ y = '>' ∨ y = '/') := by
    cases l with
    | nil =>
      cases ws with
      | nil => exact ⟨c, rest, rfl, .inr (hc.imp And.left And.left)⟩
      | cons w ws => exact ⟨w, _, rfl, .inl (all_cons hws).1⟩
    | cons kv l =>
      obtain ⟨w, ws', hal⟩ := List.exists_cons_of_ne_nil hL.ws.attrLead_ne
      exact ⟨w, _, by simp [layAttr, hal]; rfl, .inl (all_cons (hal ▸ hL.ws.attrLead)).1⟩
  obtain ⟨y, ys, hy, hyc⟩ := hhead
  have hopen : run ⟨.tagName tag.reverse, stk, none, cr⟩ (l.flatMap (layAttr L) ++ (ws ++ c :: rest)) =
      run ⟨.tagSpace true, ⟨tag, [], [], [], false⟩ :: stk, none, false⟩ (l.flatMap (layAttr L) ++ (ws ++ c :: rest)) := by
    rw [hy, run_cons, run_cons, step_tagName_open hyc, List.reverse_reverse]
  obtain ⟨b', s3⟩ := run_layAttrs hL l a1 true ⟨tag, [], [], [], false⟩ stk none a2
  rw [hopen, run_append, s3, run_append, run_tagSpace_ws hws, run_cons]
  rcases hc with ⟨rfl, rfl⟩ | ⟨rfl, rfl⟩ <;> rfl

theorem run_leaf (tag : Str) (attrs : List (Str × Str)) (text : Str) (ht : isName tag = true)
    (ha : attrsOk attrs = true) (hx : textOk text = true) (b stk cr) :
    run ⟨.lt b, stk, none, cr⟩ (layBody L tag attrs text []) =
      St.close ⟨.misc, ⟨tag, ordered L.toStyle attrs, text, [], false⟩ :: stk, none, false⟩ := by
  have ha' := attrsOk_ordered L.toStyle attrs ha
  have hend := fun br tx => run_closing hL.ws.closeWs (ws := []) rfl ht (hk := false) (fun _ => rfl)
    br (ordered L.toStyle attrs) tx [] stk none
  simp only [layBody, List.isEmpty_nil, Bool.and_true, List.nil_append] at hend ⊢
  split
  · rename_i he
    simp at he
    subst he
    split
    · -- explicit empty: `<t></t>`
      rw [run_open hL ht ha' hL.emptyLead (.inl ⟨rfl, rfl⟩), hend]
    · -- self-closing: `<t/>`
      rw [run_open hL ht ha' hL.emptyLead (.inr ⟨rfl, rfl⟩)]
      exact close_mode_irrel ..
  · -- with text
    obtain ⟨b1, e1⟩ := hL.escT text hx
    rw [run_open hL ht ha' hL.ws.tagEnd (.inl ⟨rfl, rfl⟩), run_append, e1, List.nil_append, hend]

theorem run_kids {l : List Elem1} (hl : l ≠ []) (h : l.all elem1Ok = true) (br tg ats tx kd hk stk) :
    run ⟨.text br, ⟨tg, ats, tx, kd, hk⟩ :: stk, none, false⟩ (l.flatMap fun c => L.indent ++ layElem1 L c) =
      ⟨.text 0, ⟨tg, ats, if hk then tx else tx ++ L.indent, kd ++ l.map (ord1 L.toStyle), true⟩ :: stk, none, false⟩ := by
  induction l generalizing br tx kd hk with
  | nil => exact absurd rfl hl
  | cons c cs ih =>
    obtain ⟨h1, h2⟩ : elem1Ok c = true ∧ cs.all elem1Ok = true := by simpa using h
    obtain ⟨ht, ha, hx⟩ := (elem1Ok_iff c).mp h1
    have one : run ⟨.text br, ⟨tg, ats, tx, kd, hk⟩ :: stk, none, false⟩ (L.indent ++ layElem1 L c) =
        ⟨.text 0, ⟨tg, ats, if hk then tx else tx ++ L.indent, kd ++ [ord1 L.toStyle c], true⟩ :: stk, none, false⟩ := by
      rw [layElem1, layNode, run_indent hL.ws.indent (fun _ => hL.ws.indent_cr),
        run_leaf hL c.tag c.attrs c.text ht ha hx]
      rfl
    rw [List.flatMap_cons, run_append, one]
    cases cs with
    | nil => simp
    | cons c' cs' =>
      rw [ih (by simp) h2]
      simp

theorem run_layElem (e : Elem) (h : elemOk e = true) (st : St)
    (hmode : st.mode = .misc ∨ st.mode = .start) (hstack : st.stack = []) (hdone : st.done = none) :
    run st (layElem L e) = { mode := .misc, stack := [], done := some (spelled L.toStyle e), cr := false } := by
  obtain ⟨ht, ha, hx, hc⟩ := (elemOk_iff e).mp h
  obtain ⟨tag, attrs, text, children⟩ := e
  obtain ⟨mode, stack, done, cr⟩ := st
  simp only at hmode hstack hdone
  subst hstack hdone
  obtain ⟨b, s1⟩ : ∃ b, step ⟨mode, [], none, cr⟩ '<' = ⟨.lt b, [], none, cr⟩ := by
    rcases hmode with rfl | rfl
    · exact ⟨false, rfl⟩
    · exact ⟨true, rfl⟩
  cases children with
  | nil =>
    have : layElem L ⟨tag, attrs, text, []⟩ = '<' :: layBody L tag attrs text [] := rfl
    rw [this, run_cons, s1, run_leaf hL tag attrs text ht ha hx]
    simp [St.close, spelled]
  | cons c cs =>
    have ha' := attrsOk_ordered L.toStyle attrs ha
    obtain ⟨b1, e1⟩ := hL.escT text hx
    simp only [layElem, layNode, layBody, layKids_isEmpty, List.isEmpty_cons, Bool.and_false, Bool.false_eq_true, if_false]
    simp only [layKids, List.isEmpty_cons, Bool.false_eq_true, if_false, List.append_assoc]
    rw [run_cons, s1, run_open hL ht ha' hL.ws.tagEnd (.inl ⟨rfl, rfl⟩), run_append, e1, run_append,
      run_kids hL (l := c :: cs) (by simp) (by simpa using hc),
      run_closing hL.ws.closeWs hL.ws.closeIndent ht (by simp)]
    simp [St.close, spelled, ord1]

theorem parseDoc_layElem (e : Elem) (h : elemOk e = true) :
    parseDoc (layElem L e) = .ok (spelled L.toStyle e) := by
  unfold parseDoc
  rw [run_layElem hL e h init (Or.inr rfl) rfl rfl]
  rfl

theorem parseDoc_lay (e : Elem) (h : elemOk e = true) (pre post : Str)
    (hpre : run init pre = { mode := .misc, stack := [], done := none, cr := false }) (hpost : post.all isS = true) :
    parseDoc (pre ++ layElem L e ++ post) = .ok (spelled L.toStyle e) := by
  unfold parseDoc
  rw [run_append, run_append, hpre, run_layElem hL e h _ (Or.inl rfl) rfl rfl, run_ws rfl hpost]
  rfl

theorem noLt_layAttrs (l : List (Str × Str)) (h : attrsOk l = true) :
    noLt (l.flatMap (layAttr L)) = true := by
  obtain ⟨a1, -⟩ := attrsOk_facts l h
  have hq : (quoteOf L.toStyle != '<') = true := by rcases quoteOf_cases L.toStyle with e | e <;> rw [e] <;> decide
  refine noLt_flatMap _ _ fun kv hkv => ?_
  obtain ⟨g1, -, g3⟩ := a1 kv hkv
  have hv : noLt (kv.2.flatMap L.escA) = true :=
    noLt_flatMap _ _ fun c hc => noLt_esc (fun _ hp => hp.2.1) c _ (hL.escA c (List.all_eq_true.mp g3 c hc))
  simp [layAttr, noLt_append, noLt_cons, isName_noLt g1, noLt_ws _ hL.ws.attrLead, noLt_ws _ hL.ws.eqL,
    noLt_ws _ hL.ws.eqR, hq, hv]
  rfl

theorem noBangQ_layNode (tag : Str) (attrs : List (Str × Str)) (text kids rest : Str)
    (ht : isName tag = true) (ha : attrsOk attrs = true) (hx : textOk text = true)
    (hk : ∀ r, noBangQ (kids ++ r) = noBangQ r) :
    noBangQ (layNode L tag attrs text kids ++ rest) = noBangQ rest := by
  simp only [layNode, layBody, List.cons_append, List.append_assoc]
  rw [noBangQ_open _ _ ht, noBangQ_noLt_append _ _ (noLt_layAttrs hL _ (attrsOk_ordered _ _ ha))]
  split
  · rw [List.append_assoc, noBangQ_noLt_append _ _ (noLt_ws _ hL.emptyLead)]
    split
    · rw [List.cons_append, noBangQ_cons_ne _ _ (by decide), noBangQ_spellEnd _ hL.ws.closeWs _ _ ht]
    · simp only [List.cons_append, List.nil_append]
      rw [noBangQ_cons_ne _ _ (by decide), noBangQ_cons_ne _ _ (by decide)]
  · simp only [List.cons_append, List.append_assoc]
    rw [noBangQ_noLt_append _ _ (noLt_ws _ hL.ws.tagEnd), noBangQ_cons_ne _ _ (by decide),
      noBangQ_noLt_append _ _ (hL.escT_noLt _ hx), hk, noBangQ_spellEnd _ hL.ws.closeWs _ _ ht]

theorem noBangQ_layKids (l : List Elem1) (rest : Str) (h : l.all elem1Ok = true) :
    noBangQ (layKids L l ++ rest) = noBangQ rest := by
  have hfm : ∀ r, noBangQ ((l.flatMap fun c => L.indent ++ layElem1 L c) ++ r) = noBangQ r := by
    intro r
    induction l with
    | nil => rfl
    | cons k ks ih =>
      obtain ⟨hk, hks⟩ : elem1Ok k = true ∧ ks.all elem1Ok = true := by simpa using h
      obtain ⟨ht, ha, hx⟩ := (elem1Ok_iff k).mp hk
      rw [List.flatMap_cons, List.append_assoc, List.append_assoc, noBangQ_noLt_append _ _ (noLt_ws _ hL.ws.indent),
        layElem1, noBangQ_layNode hL _ _ _ _ _ ht ha hx (fun _ => rfl), ih hks]
  have hci : noLt (if l.isEmpty then [] else L.closeIndent) = true := by
    split
    · rfl
    · exact noLt_ws _ hL.ws.closeIndent
  rw [layKids, List.append_assoc, hfm, noBangQ_noLt_append _ _ hci]

theorem noBangQ_layElem (e : Elem) (h : elemOk e = true) : noBangQ (layElem L e) = true := by
  obtain ⟨ht, ha, hx, hc⟩ := (elemOk_iff e).mp h
  have := noBangQ_layNode hL e.tag e.attrs e.text (layKids L e.children) [] ht ha hx
    (fun r => noBangQ_layKids hL _ r hc)
  rwa [List.append_nil] at this

theorem layElem_ending (e : Elem) (h : elemOk e = true) :
    ∃ pre c, layElem L e = pre ++ [c, '>'] ∧ c ≠ '>' := by
  have ht := ((elemOk_iff e).mp h).1
  obtain ⟨pre, c, he, hc⟩ := spellEnd_ending _ hL.ws.closeWs e.tag ht
  unfold layElem layNode layBody
  split
  · split
    · -- explicit empty: `<t></t>`
      exact ⟨_, c, by rw [he]; simp only [← List.append_assoc, ← List.cons_append]; rfl, hc⟩
    · -- self-closing: `<t/>`
      exact ⟨_, '/', by simp only [← List.append_assoc, ← List.cons_append]; rfl, by decide⟩
  · -- with content
    exact ⟨_, c, by rw [he]; simp only [← List.append_assoc, ← List.cons_append]; rfl, hc⟩

theorem parseDoc_lay_take (e : Elem) (h : elemOk e = true) (k : Nat)
    (hk : k < (layElem L e).length) (e' : Elem) : parseDoc ((layElem L e).take k) ≠ .ok e' := by
  obtain ⟨pre, c, hb, -⟩ := layElem_ending hL e h
  refine parseDoc_take _ ?_ (noBangQ_layElem hL e h) ⟨pre ++ [c], by rw [hb]; simp⟩ k hk e'
  rw [run_layElem hL e h init (Or.inr rfl) rfl rfl]

end

end Indi.Xml
