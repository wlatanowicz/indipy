/-
  The model's binary64 arithmetic (`Num.flIEEE`: round to nearest even in the normal range) is
  `Accurate`: relative error at most 2⁻⁵³ (half a unit in the last place).  This discharges the
  hypothesis `A.Accurate` of `C10_sexa_roundtrip` for the arithmetic the executable model uses,
  and gives C06 its bound on a written number.
-/
import Indi.Proofs.Num

namespace Indi.Num
open Indi Indi.Spec.Num

theorem pow2_eq (e : Int) : pow2 e = (2 : Rat) ^ e := by
  unfold pow2
  split
  · rw [← zpow_natCast, Int.toNat_of_nonneg ‹_›]
  · rw [one_div, ← zpow_natCast, ← zpow_neg, Int.toNat_of_nonneg (by omega), neg_neg]

theorem pow2_pos (e : Int) : 0 < pow2 e := by
  rw [pow2_eq]; exact zpow_pos (by norm_num) e

theorem pow2_succ (e : Int) : pow2 (e + 1) = 2 * pow2 e := by
  rw [pow2_eq, pow2_eq, zpow_add_one₀ (by norm_num)]; ring

theorem pow2_pred (e : Int) : pow2 (e - 1) = pow2 e / 2 := by
  rw [pow2_eq, pow2_eq, zpow_sub_one₀ (by norm_num)]; ring

/-- the exponent estimate from the bit lengths of numerator and denominator -/
theorem log2_estimate (q : Rat) (hq : 0 < q) :
    (2 : Rat) ^ 51 * pow2 ((Nat.log2 q.num.natAbs : Int) - (Nat.log2 q.den : Int) - 52) ≤ q := by
  have hnum := Rat.num_pos.2 hq
  have h1 : (2 : Rat) ^ Nat.log2 q.num.natAbs ≤ q.num := by
    have := Nat.log2_self_le (n := q.num.natAbs) (by omega)
    zify at this
    rw [abs_of_pos hnum] at this
    exact_mod_cast this
  have h2 : (q.den : Rat) ≤ 2 ^ (Nat.log2 q.den + 1) := by exact_mod_cast (Nat.lt_log2_self (n := q.den)).le
  -- with `a`, `b` the two logarithms: `2^a ≤ num`, `den ≤ 2^(b+1)`, and the left side is `2^a / 2^(b+1)`
  rw [pow2_eq, ← zpow_natCast 2 51, ← zpow_add₀ two_ne_zero,
    show ((51 : Nat) : Int) + ((Nat.log2 q.num.natAbs : Int) - (Nat.log2 q.den : Int) - 52)
      = (Nat.log2 q.num.natAbs : Int) - ((Nat.log2 q.den + 1 : Nat) : Int) by push_cast; ring,
    zpow_sub₀ two_ne_zero, zpow_natCast, zpow_natCast]
  conv => rhs; rw [← Rat.num_div_den q]
  exact div_le_div₀ (by exact_mod_cast hnum.le) h1 (by exact_mod_cast q.den_pos) h2

/-- rounding to a multiple of `pow2 e` when `q` has at least 53 bits at that scale: half a unit of the last
place, `pow2 e / 2`, is then at most `q / 2^53` -/
theorem round_at (q : Rat) (e : Int) (h : (2 : Rat) ^ 52 * pow2 e ≤ q) :
    absR ((rhe (q / pow2 e) : Rat) * pow2 e - q) * 2 ^ 53 ≤ q := by
  have hP := pow2_pos e
  have hb := rhe_bounds (q / pow2 e)
  generalize pow2 e = P at *
  have g1 := mul_le_mul_of_nonneg_right hb.1 hP.le
  have g2 := mul_le_mul_of_nonneg_right hb.2 hP.le
  rw [sub_mul, div_mul_cancel₀ q hP.ne'] at g1 g2
  rw [absR_mul_le (by positivity)]
  constructor <;> linarith

theorem flPos_accurate (q : Rat) (hq : 0 < q) : absR (flPos q - q) * 2 ^ 53 ≤ q := by
  have hest := log2_estimate q hq
  unfold flPos
  simp only []
  generalize (Nat.log2 q.num.natAbs : Int) - (Nat.log2 q.den : Int) - 52 = e0 at *
  have hP := pow2_pos e0
  -- the estimate may be one too high or one too low; at the exponent chosen `q` has its 53 bits
  split
  · exact round_at _ _ (by rw [pow2_pred]; linarith)
  · split
    · exact round_at _ _ (by rw [pow2_succ]; linarith [(le_div_iff₀ hP).1 ‹_›])
    · exact round_at _ _ ((le_div_iff₀ hP).1 (not_lt.mp ‹_›))

theorem flIEEE_accurate53 (q : Rat) : absR (flIEEE q - q) * 2 ^ 53 ≤ absR q := by
  unfold flIEEE
  split
  · simp [‹q = 0›, absR]
  · split
    · rw [absR_of_nonneg (a := q) (le_of_lt ‹_›)]
      exact flPos_accurate q ‹_›
    · have hneg : 0 < -q := neg_pos.2 (lt_of_le_of_ne (not_lt.mp ‹_›) ‹_›)
      rw [← absR_neg, ← absR_neg q, absR_of_nonneg hneg.le, neg_sub', neg_neg]
      exact flPos_accurate (-q) hneg

/-- the bound in the form `Spec.Sys.writtenOk` states it -/
theorem flIEEE_accurate (q : Rat) : absR (flIEEE q - q) * 2 ^ 52 ≤ absR q :=
  le_trans (mul_le_mul_of_nonneg_left (by norm_num) (absR_nonneg _)) (flIEEE_accurate53 q)

end Indi.Num
