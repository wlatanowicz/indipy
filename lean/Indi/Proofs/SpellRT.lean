/-
  Foreign spellings, character level: every spelling style is a layout (`layOf sp`) and `spellElem sp` is its writer,
  so the parser automaton reads every spelling `spellElem sp e` of an acceptable element (quote style, white space
  inside tags, indentation, explicit empty elements, raw `>` in text, reversed attributes) back as `spelled sp e`;
  no proper prefix of a spelling is a complete document.
-/
import Indi.Proofs.XmlRT

namespace Indi.Xml
open Indi Doc

theorem escAttrCharQ_esc (single : Bool) (c : Char) :
    Esc (plainAttr (if single then '\'' else '"')) c (escAttrCharQ single c) :=
  .ite (s "amp") (by decide +kernel) fun n1 =>
  .ite (s "lt") (by decide +kernel) fun n2 =>
  iteInduction (fun e => by
    simp only [Bool.and_eq_true, decide_eq_true_eq] at e
    rw [e.1]; exact .ref (s "quot") (by decide +kernel)) fun n3 =>
  iteInduction (fun e => by
    simp only [Bool.and_eq_true, decide_eq_true_eq] at e
    rw [e.1]; exact .ref (s "apos") (by decide +kernel)) fun n4 =>
  .ite (s "#13") (by decide +kernel) fun n5 =>
  .ite (s "#10") (by decide +kernel) fun n6 =>
  .ite (s "#9") (by decide +kernel) fun n7 =>
  .inl ⟨rfl, by cases single <;> simp_all, n2, n1, n5, n6, n7⟩

/-- text with raw `>`: the automaton's bracket counter is the writer's, capped at 2 -/
theorem run_escTextRaw (t : Str) (h : textOk t = true) (k br : Nat) (hbr : br = min k 2) :
    ∃ br', ReadsText br (escTextRaw t k) t br' := by
  induction t generalizing k br with
  | nil => exact ⟨br, .nil br⟩
  | cons c cs ih =>
    obtain ⟨h1, h2, h3⟩ := textOk_cons c cs h
    let P (x : Str) : Prop := ∃ b, ReadsText br x (c :: cs) b
    -- `x` writes `c`, the writer's counter is `k'` afterwards
    have next : ∀ (x : Str) (k' br' : Nat), br' = min k' 2 → ReadsText br x [c] br' → P (x ++ escTextRaw cs k') :=
      fun x k' br' hb hx => (ih h3 k' br' hb).imp fun _ e => hx.append e
    have esc : ∀ x, Esc plainText c x → x ≠ [']'] → ReadsText br x [c] 0 := fun x hx hne => by
      have := run_text_esc c h1 x hx br
      rwa [if_neg hne] at this
    show P (escTextRaw (c :: cs) k)
    rw [escTextRaw]
    refine iteInduction (fun e => ?_) fun n1 => ?_
    · subst c; exact next _ 0 0 rfl (esc _ (.ref (s "amp") (by decide +kernel)) (by decide))
    refine iteInduction (fun e => ?_) fun n2 => ?_
    · subst c; exact next _ 0 0 rfl (esc _ (.ref (s "lt") (by decide +kernel)) (by decide))
    refine iteInduction (fun e => ?_) fun n3 => ?_
    · subst c
      exact next [']'] (k + 1) (if br ≥ 2 then 2 else br + 1) (by subst hbr; split <;> omega) (readsText_bracket br)
    refine iteInduction (fun e => ?_) fun n4 => ?_
    · subst c
      by_cases hk : k ≥ 2
      · rw [if_pos hk]; exact next _ 0 0 rfl (esc _ (.ref (s "gt") (by decide +kernel)) (by decide))
      · rw [if_neg hk]
        exact next ['>'] 0 0 rfl (step_text_plain '>' h1 (by decide) (by decide) (by decide) (by decide) br
          fun _ => by subst hbr; omega)
    · exact next [c] 0 0 rfl (esc _ (.inl ⟨rfl, n2, n1, h2, n4⟩) (by simpa using n3))

theorem noLt_escTextRaw (t : Str) (k : Nat) : noLt (escTextRaw t k) = true := by
  induction t generalizing k with
  | nil => rfl
  | cons c cs ih =>
    rw [escTextRaw]
    -- every branch writes a reference, `]`, `>` or a `c` known by then to differ from `<`, and recurses
    repeat' split
    all_goals simp_all [noLt_append, noLt_cons]
    all_goals decide

def layOf (sp : Style) : Lay := { sp with escA := escAttrCharQ sp.single, escT := spellText sp, emptyLead := sp.tagEnd }

theorem layOf_ok (sp : Style) (hsp : sp.ok = true) : (layOf sp).Ok where
  style := hsp
  emptyLead := (Style.ws_of_ok hsp).tagEnd
  escA c _ := escAttrCharQ_esc sp.single c
  escT t h := by
    show ∃ br, ReadsText 0 (spellText sp t) t br
    unfold spellText
    split
    · exact run_escTextRaw t h 0 0 rfl
    · exact run_escText t h 0
  escT_noLt t h := by
    show noLt (spellText sp t) = true
    unfold spellText
    split
    · exact noLt_escTextRaw t 0
    · exact noLt_escText t h

theorem spellElem1_eq_lay (sp : Style) (c : Elem1) : spellElem1 sp c = layElem1 (layOf sp) c := by
  simp only [spellElem1, spellStart, layElem1, layNode, layBody, List.isEmpty_nil, Bool.and_true]
  split <;> simp [layOf] <;> rfl

theorem spellElem_eq_lay (sp : Style) (e : Elem) : spellElem sp e = layElem (layOf sp) e := by
  have hk : layKids (layOf sp) e.children =
      (e.children.flatMap fun c => sp.indent ++ spellElem1 sp c) ++ (if e.children.isEmpty then [] else sp.closeIndent) := by
    simp only [layKids, spellElem1_eq_lay]
    rfl
  rw [layElem, layNode, layBody, layKids_isEmpty, hk]
  simp only [spellElem, spellStart]
  split <;> simp [layOf] <;> rfl

theorem run_spellElem (sp : Style) (hsp : sp.ok = true) (e : Elem) (h : elemOk e = true) (st : St)
    (hmode : st.mode = .misc ∨ st.mode = .start) (hstack : st.stack = []) (hdone : st.done = none) :
    run st (spellElem sp e) = { mode := .misc, stack := [], done := some (spelled sp e), cr := false } := by
  rw [spellElem_eq_lay]
  exact run_layElem (layOf_ok sp hsp) e h st hmode hstack hdone

theorem parseDoc_spell (sp : Style) (hsp : sp.ok = true) (e : Elem) (h : elemOk e = true) (pre post : Str)
    (hpre : run init pre = { mode := .misc, stack := [], done := none, cr := false }) (hpost : post.all isS = true) :
    parseDoc (pre ++ spellElem sp e ++ post) = .ok (spelled sp e) := by
  rw [spellElem_eq_lay]
  exact parseDoc_lay (layOf_ok sp hsp) e h pre post hpre hpost

theorem spellElem_starts (sp : Style) (e : Elem) : ('<' :: e.tag) <+: spellElem sp e := by
  rw [spellElem_eq_lay]
  exact layElem_starts (layOf sp) e

theorem spellElem_ending (sp : Style) (hsp : sp.ok = true) (e : Elem) (h : elemOk e = true) :
    ∃ pre c, spellElem sp e = pre ++ [c, '>'] ∧ c ≠ '>' := by
  rw [spellElem_eq_lay]
  exact layElem_ending (layOf_ok sp hsp) e h

theorem parseDoc_spell_prefix (sp : Style) (hsp : sp.ok = true) (e : Elem) (h : elemOk e = true) (k : Nat)
    (hk : k < (spellElem sp e).length) (e' : Elem) : parseDoc ((spellElem sp e).take k) ≠ .ok e' := by
  rw [spellElem_eq_lay] at hk ⊢
  exact parseDoc_lay_take (layOf_ok sp hsp) e h k hk e'

/-! Non-vacuity: the five styles the correspondence uses (`SPELLINGS` in tools/comp_buf.py) and one with every option
set, on an element that exercises every rule. -/

namespace SpellRT

def exElem : Elem :=
  { tag := s "defTextVector",
    attrs := [(s "device", s "it's a \"<scope>\" & more"), (s "name", s "PORT\tA")],
    text := s "a>b]]>c é",
    children := [{ tag := s "defText", attrs := [(s "name", s "x"), (s "label", s "'q' \"r\"")], text := s "]]>>" },
                 { tag := s "defText", attrs := [(s "name", s "y")], text := [] }] }

def exEmpty : Elem := { tag := s "getProperties", attrs := [(s "version", s "1.7")], text := [], children := [] }

def styCompact : Style := {}
def styIndented : Style := { indent := s "\n  ", closeIndent := s "\n" }
def stySingleRev : Style := { single := true, revAttrs := true }
def styExplicit : Style := { explicitEmpty := true, rawGt := true, closeWs := s " " }
def styLead : Style := { attrLead := s "\n   ", rawGt := true }
def styAll : Style :=
  { attrLead := s " \t", eqL := s " ", eqR := s "\n", single := true, tagEnd := s " ", explicitEmpty := true,
    closeWs := s "\r\n", indent := s "\n\t", closeIndent := s "\r\n", rawGt := true, revAttrs := true }

example : elemOk exElem = true ∧ elemOk exEmpty = true := by decide +kernel
example : [styCompact, styIndented, stySingleRev, styExplicit, styLead, styAll].all Style.ok = true := by decide +kernel

example : parseDoc (spellElem styCompact exElem) = .ok (spelled styCompact exElem) := by decide +kernel
example : parseDoc (spellElem styIndented exElem) = .ok (spelled styIndented exElem) := by decide +kernel
example : parseDoc (spellElem stySingleRev exElem) = .ok (spelled stySingleRev exElem) := by decide +kernel
example : parseDoc (spellElem styExplicit exElem) = .ok (spelled styExplicit exElem) := by decide +kernel
example : parseDoc (spellElem styLead exElem) = .ok (spelled styLead exElem) := by decide +kernel
example : parseDoc (spellElem styAll exElem) = .ok (spelled styAll exElem) := by decide +kernel

example : parseDoc (spellElem styCompact exEmpty) = .ok (spelled styCompact exEmpty) := by decide +kernel
example : parseDoc (spellElem styExplicit exEmpty) = .ok (spelled styExplicit exEmpty) := by decide +kernel
example : parseDoc (spellElem styAll exEmpty) = .ok (spelled styAll exEmpty) := by decide +kernel

/-- the spellings really differ from the library's own output, and from each other -/
example : spellElem styExplicit exEmpty = s "<getProperties version=\"1.7\"></getProperties >" := by decide +kernel
example : spellElem stySingleRev exElem =
    s "<defTextVector name='PORT&#9;A' device='it&apos;s a \"&lt;scope>\" &amp; more'>a&gt;b]]&gt;c &#233;<defText label='&apos;q&apos; \"r\"' name='x'>]]&gt;&gt;</defText><defText name='y'/></defTextVector>" := by
  decide +kernel
example : spellText styLead (s "a>b]]>c é") = s "a>b]]&gt;c é" := by decide +kernel
/-- the indentation before the first child is what the root's text gains -/
example : (spelled styIndented exElem).text = s "a>b]]>c é\n  " := by decide +kernel

end SpellRT

end Indi.Xml
