/-
  Lemmas for C02 / C11 (framing buffer).  Two ideas carry the file: `processLoop_rec`, one induction principle on the
  result of `processLoop`, of which the C11 facts are instances; and the session invariant `At` (what the buffer is once
  a prefix of the stream has arrived), kept by one `feed` at any point of the stream (`feed_stream2`), of which the
  session theorems are folds.  A name ending in `2` states its fact under `StreamOk2` (Spec/Buf2.lean: gaps of any
  length), of which `StreamOk` is a special case (`StreamOk.toStreamOk2`); only `countDone_zero` has both forms.
-/
import Indi.Spec.Buf2

namespace Indi.Buf

variable {M : Type}

theorem startsKnown_iff (tags : List Str) (d : Str) :
    startsKnown tags d = true ↔ ∃ t ∈ tags, ('<' :: t) <+: d := by
  simp [startsKnown, List.any_eq_true, List.isPrefixOf_iff_prefix]

theorem startsKnown_nil (tags : List Str) : startsKnown tags [] = false := by
  cases h : startsKnown tags [] with
  | false => rfl
  | true =>
    obtain ⟨t, _, ht⟩ := (startsKnown_iff tags []).1 h
    simp at ht

theorem startsKnown_head (tags : List Str) (c : Char) (cs : Str)
    (h : startsKnown tags (c :: cs) = true) : c = '<' := by
  obtain ⟨t, _, ht⟩ := (startsKnown_iff tags _).1 h
  obtain ⟨u, hu⟩ := ht
  simp at hu
  exact hu.1.symm

theorem startsKnown_append (tags : List Str) (a b : Str)
    (h : startsKnown tags a = true) : startsKnown tags (a ++ b) = true := by
  obtain ⟨t, htm, ht⟩ := (startsKnown_iff tags _).1 h
  exact (startsKnown_iff tags _).2 ⟨t, htm, ht.trans (List.prefix_append a b)⟩

theorem startsKnown_span (tags : List Str) (hA2 : TagsOk tags) (a b : Str) (ha : a ≠ [])
    (h : startsKnown tags (a ++ '<' :: b) = true) : startsKnown tags a = true := by
  obtain ⟨t, htm, ht⟩ := (startsKnown_iff tags _).1 h
  refine (startsKnown_iff tags _).2 ⟨t, htm, ?_⟩
  cases a with
  | nil => exact absurd rfl ha
  | cons c a' =>
    rw [List.cons_append, List.cons_prefix_cons] at ht
    refine List.cons_prefix_cons.2 ⟨ht.1, ?_⟩
    -- the tag has no `'<'`, so it ends before the `'<'` that follows `a'`
    rcases Nat.lt_or_ge a'.length t.length with hl | hl
    · have e : t[a'.length] = '<' := by rw [ht.2.getElem hl]; simp
      exact absurd (e ▸ List.getElem_mem hl) (hA2 t htm)
    · exact List.prefix_of_prefix_length_le ht.2 (List.prefix_append _ _) hl

theorem NoOpener_drop (tags : List Str) (g : Str) (k : Nat) (h : NoOpener tags g) :
    NoOpener tags (g.drop k) := by
  intro i
  rw [List.drop_drop]
  exact h _

theorem NoOpener_suffix (tags : List Str) (g s : Str) (hs : s <:+ g) (h : NoOpener tags g) :
    NoOpener tags s := by
  obtain ⟨p, hp⟩ := hs
  have : s = g.drop p.length := by rw [← hp]; simp
  rw [this]
  exact NoOpener_drop _ _ _ h

theorem NoOpener_of_prefix (tags : List Str) (a g : Str) (ha : a <+: g) (h : NoOpener tags g) :
    NoOpener tags a := by
  obtain ⟨b, rfl⟩ := ha
  intro i
  cases hh : startsKnown tags (a.drop i) with
  | false => rfl
  | true =>
    have := h i
    rw [List.drop_append, startsKnown_append _ _ _ hh] at this
    cases this

theorem cleanup_cons (tags : List Str) (c : Char) (cs : Str) :
    cleanup tags (c :: cs) =
      if startsKnown tags (c :: cs) = true then c :: cs
      else if cleanup tags cs = [] ∧ c = '<' then c :: cs
      else cleanup tags cs := by
  unfold cleanup
  simp only [dropToKnown, dropToLastLt]
  by_cases hs : startsKnown tags (c :: cs) = true
  · simp [hs]
  · simp only [hs, Bool.false_eq_true, if_false]
    cases hk : dropToKnown tags cs with
    | some r =>
      have := (dropToKnown_some tags cs r hk).1
      simp [this]
    | none =>
      cases hl : dropToLastLt cs with
      | some r =>
        have := (dropToLastLt_some cs r hl).1
        simp [this]
      | none =>
        by_cases hc : c = '<'
        · simp [hc]
        · simp [hc]

theorem cleanup_nil (tags : List Str) : cleanup tags [] = [] := by
  simp [cleanup, dropToKnown, dropToLastLt]

theorem cleanup_eq_nil_iff (tags : List Str) (z : Str) : cleanup tags z = [] ↔ '<' ∉ z := by
  induction z with
  | nil => simp [cleanup_nil]
  | cons c cs ih =>
    rw [cleanup_cons]
    by_cases hs : startsKnown tags (c :: cs) = true
    · have := startsKnown_head _ _ _ hs
      subst this
      simp [hs]
    · by_cases hc : c = '<'
      · by_cases hn : cleanup tags cs = []
        · simp [hc, hn]
        · subst hc
          simp [hs, hn]
      · simp only [hs, hc, and_false, if_false, Bool.false_eq_true]
        rw [ih]
        simp [Ne.symm hc]

theorem cleanup_of_startsKnown (tags : List Str) (d : Str) (h : startsKnown tags d = true) :
    cleanup tags d = d := by
  cases d with
  | nil => exact cleanup_nil _
  | cons c cs => rw [cleanup_cons]; simp [h]

/-- cleaning up early does not change the result of a later clean-up -/
theorem cleanup_absorb (tags : List Str) (hA2 : TagsOk tags) (x y : Str) :
    cleanup tags (cleanup tags x ++ y) = cleanup tags (x ++ y) := by
  induction x with
  | nil => simp [cleanup_nil]
  | cons c cs ih =>
    rw [cleanup_cons tags c cs]
    by_cases hs : startsKnown tags (c :: cs) = true
    · simp [hs]
    · by_cases h2 : cleanup tags cs = [] ∧ c = '<'
      · simp [h2]
      · -- the clean-up went past `c`; it does so with `y` behind as well
        rw [if_neg hs, if_neg h2, ih, List.cons_append, cleanup_cons tags c (cs ++ y), if_neg, if_neg]
        · rintro ⟨h4, hc⟩
          rw [cleanup_eq_nil_iff] at h4
          exact h2 ⟨(cleanup_eq_nil_iff tags cs).2 fun hm => h4 (List.mem_append_left _ hm), hc⟩
        · -- an opener at `c` that is complete only with `y` would reach over a `'<'` of `cs`
          intro h3
          have hc := startsKnown_head _ _ _ h3
          subst hc
          have hmem : '<' ∈ cs := Decidable.byContradiction fun hm => h2 ⟨(cleanup_eq_nil_iff tags cs).2 hm, rfl⟩
          obtain ⟨a', b', rfl⟩ := List.append_of_mem hmem
          have h5 := startsKnown_span tags hA2 ('<' :: a') (b' ++ y) (List.cons_ne_nil _ _)
            (by simpa [List.append_assoc] using h3)
          exact hs (by simpa [List.append_assoc] using startsKnown_append tags _ ('<' :: b') h5)

theorem cleanup_idem (tags : List Str) (hA2 : TagsOk tags) (x : Str) :
    cleanup tags (cleanup tags x) = cleanup tags x := by
  simpa using cleanup_absorb tags hA2 x []

theorem cleanup_gap (tags : List Str) (hA2 : TagsOk tags) (g p' : Str) (hg : NoOpener tags g)
    (hp : cleanup tags ('<' :: p') = '<' :: p') :
    cleanup tags (g ++ '<' :: p') = '<' :: p' := by
  induction g with
  | nil => simpa using hp
  | cons c g' ih =>
    have ih' := ih (NoOpener_drop tags (c :: g') 1 hg)
    rw [List.cons_append, cleanup_cons]
    have h1 : ¬ (startsKnown tags (c :: (g' ++ '<' :: p')) = true) := by
      intro h1
      have := startsKnown_span tags hA2 (c :: g') p' (by simp) (by simpa using h1)
      have h0 := hg 0
      simp at h0
      rw [h0] at this
      cases this
    have h2 : ¬ (cleanup tags (g' ++ '<' :: p') = [] ∧ c = '<') := by
      rintro ⟨h2, _⟩
      rw [ih'] at h2
      cases h2
    simp only [h1, h2, if_false]
    exact ih'

theorem cleanup_lt_noLt (tags : List Str) (p' : Str) (h : '<' ∉ p') :
    cleanup tags ('<' :: p') = '<' :: p' := by
  rw [cleanup_cons]
  have := (cleanup_eq_nil_iff tags p').2 h
  simp [this]

theorem scan_found_parses (parse : Str → ParseRes M)
    (rest preRev : Str) (m : M) (r : Str) (h : scan parse preRev rest = .found m r) :
    ∃ x, parse x = .msg m := by
  have := scan_hit parse rest preRev
  rw [h] at this
  obtain ⟨x, -, -, hx⟩ := this
  exact ⟨_, hx⟩

theorem findMessage_found {parse : Str → ParseRes M} {data : Str} {m : M} {r : Str}
    (h : findMessage parse data = .found m r) : ∃ x, x ≠ [] ∧ data = x ++ r ∧ parse x = .msg m := by
  have := findMessage_hit parse data
  rwa [h] at this

theorem findMessage_skip_suffix (parse : Str → ParseRes M) (data : Str) (r : Str)
    (h : findMessage parse data = .skip r) : r <:+ data := by
  have := findMessage_hit parse data
  rw [h] at this
  obtain ⟨x, -, rfl, -⟩ := this
  exact List.suffix_append _ _

theorem findMessage_nothing_of_prefixes (parse : Str → ParseRes M) (data : Str)
    (h : ∀ k, parse (data.take k) = .notXml) : findMessage parse data = .nothing := by
  have hit := findMessage_hit parse data
  cases hf : findMessage parse data with
  | nothing => rfl
  | found m r | skip r =>
    rw [hf] at hit
    obtain ⟨x, -, rfl, hx⟩ := hit
    have := h x.length
    rw [List.take_left, show x = [] ++ x from rfl, hx] at this
    cases this

theorem findMessage_noOpener (parse : Str → ParseRes M) (tags : List Str)
    (hA1 : ParserNeedsOpener parse tags) (data : Str) (hd : NoOpener tags data) (m : M) (r : Str) :
    findMessage parse data ≠ .found m r := by
  intro h
  obtain ⟨x, -, rfl, hx⟩ := findMessage_found h
  obtain ⟨i, hi⟩ := hA1 _ _ hx
  rw [NoOpener_of_prefix tags x _ (List.prefix_append x r) hd i] at hi
  cases hi

theorem fits_mono (T : Option Nat) (a b : Str) (h : fits T a) (hl : b.length ≤ a.length) :
    fits T b := by
  cases T with
  | none => trivial
  | some t => exact Nat.le_trans hl h

theorem fits_nil (T : Option Nat) : fits T [] := by
  cases T with
  | none => trivial
  | some t => exact Nat.zero_le t

theorem processLoop_nil (parse : Str → ParseRes M) (tags : List Str) (T : Option Nat) :
    processLoop parse tags T [] = ([], []) := by
  rw [processLoop.eq_def]; rfl

theorem processLoop_found (parse : Str → ParseRes M) (tags : List Str) (T : Option Nat)
    (data : Str) (m : M) (rest : Str) (hf : findMessage parse data = .found m rest) :
    processLoop parse tags T data =
      (m :: (processLoop parse tags T (cleanup tags rest)).1,
        (processLoop parse tags T (cleanup tags rest)).2) := by
  rw [processLoop.eq_def]
  split
  · subst data; cases hf
  · split <;> simp_all

theorem processLoop_skip (parse : Str → ParseRes M) (tags : List Str) (T : Option Nat)
    (data : Str) (rest : Str) (hf : findMessage parse data = .skip rest) :
    processLoop parse tags T data = processLoop parse tags T (cleanup tags rest) := by
  rw [processLoop.eq_def]
  split
  · subst data; cases hf
  · split <;> simp_all

theorem processLoop_keep (parse : Str → ParseRes M) (tags : List Str) (T : Option Nat)
    (data : Str) (hf : findMessage parse data = .nothing) (hfit : fits T data) :
    processLoop parse tags T data = ([], data) := by
  rw [processLoop.eq_def]
  split
  · subst data; rfl
  · cases T <;> split <;> simp_all [fits, Nat.not_lt.2]

theorem processLoop_drop (parse : Str → ParseRes M) (tags : List Str) (t : Nat)
    (data : Str) (hf : findMessage parse data = .nothing) (hgt : data.length > t) :
    processLoop parse tags (some t) data =
      processLoop parse tags (some t) (cleanup tags data.tail) := by
  rw [processLoop.eq_def]
  split
  · subst data; cases hgt
  · split <;> simp_all

/-- `processLoop.induct_unfolding` with its six cases brought to four: the empty buffer and both threshold modes are
`keep` or `drop` by `fits T` -/
theorem processLoop_rec (parse : Str → ParseRes M) (tags : List Str) (T : Option Nat)
    (P : Str → List M × Str → Prop)
    (keep : ∀ data, findMessage parse data = .nothing → fits T data → P data ([], data))
    (found : ∀ data m rest, findMessage parse data = .found m rest →
      P (cleanup tags rest) (processLoop parse tags T (cleanup tags rest)) →
      P data (m :: (processLoop parse tags T (cleanup tags rest)).1, (processLoop parse tags T (cleanup tags rest)).2))
    (skip : ∀ data rest, findMessage parse data = .skip rest →
      P (cleanup tags rest) (processLoop parse tags T (cleanup tags rest)) →
      P data (processLoop parse tags T (cleanup tags rest)))
    (drop : ∀ data, findMessage parse data = .nothing → ¬ fits T data →
      P (cleanup tags data.tail) (processLoop parse tags T (cleanup tags data.tail)) →
      P data (processLoop parse tags T (cleanup tags data.tail))) (data : Str) :
    P data (processLoop parse tags T data) := by
  refine processLoop.induct_unfolding parse tags T P (keep [] rfl (fits_nil T)) (fun data _ => found data)
    (fun data _ => skip data) (fun data _ hf t ht hgt ih => ?_) (fun data _ hf t ht hle => keep data hf ?_)
    (fun data _ hf ht => keep data hf ?_) data
  · subst ht; exact drop data hf (Nat.not_le_of_gt hgt) ih
  · subst ht; exact Nat.le_of_not_gt hle
  · subst ht; trivial

theorem processLoop_bounded (parse : Str → ParseRes M) (tags : List Str)
    (t : Nat) (data : Str) :
    (processLoop parse tags (some t) data).2.length ≤ t :=
  processLoop_rec parse tags (some t) (fun _ r => r.2.length ≤ t)
    (fun _ _ hfit => hfit) (fun _ _ _ _ ih => ih) (fun _ _ _ ih => ih) (fun _ _ _ ih => ih) data

theorem processLoop_genuine (parse : Str → ParseRes M) (tags : List Str) (T : Option Nat)
    (data : Str) (m : M) (h : m ∈ (processLoop parse tags T data).1) :
    ∃ x, parse x = .msg m := by
  revert h
  refine processLoop_rec parse tags T (fun _ r => m ∈ r.1 → ∃ x, parse x = .msg m)
    (fun _ _ _ h => by cases h) ?_ (fun _ _ _ ih => ih) (fun _ _ _ ih => ih) data
  intro data m' rest hf ih h
  rcases List.mem_cons.1 h with rfl | h
  · obtain ⟨x, -, -, hx⟩ := findMessage_found hf
    exact ⟨x, hx⟩
  · exact ih h

theorem processLoop_suffix (parse : Str → ParseRes M) (tags : List Str) (T : Option Nat)
    (data : Str) : (processLoop parse tags T data).2 <:+ data := by
  refine processLoop_rec parse tags T (fun data r => r.2 <:+ data) (fun _ _ _ => List.suffix_refl _)
    ?_ ?_ ?_ data
  · intro data m rest hf ih
    obtain ⟨x, -, rfl, -⟩ := findMessage_found hf
    exact ih.trans ((cleanup_suffix tags rest).trans (List.suffix_append _ _))
  · intro data rest hf ih
    exact ih.trans ((cleanup_suffix tags rest).trans (findMessage_skip_suffix parse _ _ hf))
  · intro data _ _ ih
    exact ih.trans ((cleanup_suffix tags _).trans (List.tail_suffix data))

theorem processLoop_noOpener (parse : Str → ParseRes M) (tags : List Str) (T : Option Nat)
    (hA1 : ParserNeedsOpener parse tags) (data : Str) (hd : NoOpener tags data) :
    (processLoop parse tags T data).1 = [] := by
  revert hd
  refine processLoop_rec parse tags T (fun data r => NoOpener tags data → r.1 = []) (fun _ _ _ _ => rfl)
    ?_ ?_ ?_ data
  · intro data m rest hf _ hd
    exact absurd hf (findMessage_noOpener parse tags hA1 data hd m rest)
  · -- a complete element that is not a message is dropped; what follows is still opener-free
    intro data rest hf ih hd
    exact ih (NoOpener_suffix tags data _
      ((cleanup_suffix tags _).trans (findMessage_skip_suffix parse _ _ hf)) hd)
  · intro data _ _ ih hd
    exact ih (NoOpener_suffix tags data _ ((cleanup_suffix tags _).trans (List.tail_suffix data)) hd)

theorem processLoop_clean (parse : Str → ParseRes M) (tags : List Str) (T : Option Nat) (hA2 : TagsOk tags)
    (data : Str) (hd : cleanup tags data = data) :
    cleanup tags (processLoop parse tags T data).2 = (processLoop parse tags T data).2 := by
  revert hd
  exact processLoop_rec parse tags T (fun data r => cleanup tags data = data → cleanup tags r.2 = r.2)
    (fun _ _ _ hd => hd) (fun _ _ _ _ ih _ => ih (cleanup_idem tags hA2 _))
    (fun _ _ _ ih _ => ih (cleanup_idem tags hA2 _)) (fun _ _ _ ih _ => ih (cleanup_idem tags hA2 _)) data

/-- `2 ≤ (v ++ b).length` is the loop guard `end < len(data) - 1`, evaluated after every candidate that is not XML -/
theorem scan_skip (parse : Str → ParseRes M) (b : Str) : ∀ (a pre : Str),
    (∀ u v, a = u ++ '>' :: v → parse (pre ++ u ++ ['>']) = .notXml ∧ 2 ≤ (v ++ b).length) →
    scan parse pre.reverse (a ++ b) = scan parse (pre ++ a).reverse b := by
  intro a
  induction a with
  | nil => intro pre _; simp
  | cons c a' ih =>
    intro pre h
    have hstep : scan parse (c :: pre.reverse) (a' ++ b) = scan parse (pre ++ c :: a').reverse b := by
      simpa using ih (pre ++ [c]) fun u v e => by simpa using h (c :: u) v (by rw [e]; rfl)
    rw [List.cons_append, scan]
    split
    · subst c
      obtain ⟨h1, h2⟩ := h [] a' rfl
      rw [List.append_nil] at h1
      rw [List.reverse_cons, List.reverse_reverse, h1, if_neg (Nat.not_lt.2 h2)]
      exact hstep
    · exact hstep

theorem findMessage_complete (parse : Str → ParseRes M) (tags : List Str) (body : Str) (m : M)
    (hadm : Admissible parse tags body m) (rest : Str) :
    findMessage parse (body ++ rest) = .found m rest := by
  obtain ⟨pre, c0, hend, hc0⟩ := hadm.ending
  have hbody : body = pre ++ [c0] ++ ['>'] := by rw [hend, List.append_assoc]; rfl
  have hlen : ¬ ((body ++ rest).length < 2) := by rw [hend]; simp; omega
  have hskip := scan_skip parse ('>' :: rest) (pre ++ [c0]) [] fun u v e => by
    -- a `'>'` within `pre ++ [c0]` is not its last character `c0`, and ends a proper prefix of the body
    have hv : v ≠ [] := by
      rintro rfl
      exact hc0 (List.append_singleton_inj.1 e).2
    have hb : body = (u ++ ['>']) ++ (v ++ ['>']) := by rw [hbody, e]; simp
    have hmin := hadm.minimal (u ++ ['>']).length (by rw [hb]; simp)
    rw [hb, List.take_left] at hmin
    exact ⟨hmin, by have := List.length_pos_iff.2 hv; simp; omega⟩
  rw [findMessage, if_neg hlen, hbody, List.append_assoc, List.singleton_append]
  rw [show scan parse [] _ = _ from hskip, List.nil_append, scan, if_pos rfl, List.reverse_cons, List.reverse_reverse,
    ← hbody, hadm.parses]

theorem findMessage_properPrefix (parse : Str → ParseRes M) (body p : Str)
    (hmin : ∀ k, k < body.length → parse (body.take k) = .notXml)
    (hp : p <+: body) (hlt : p.length < body.length) :
    findMessage parse p = .nothing := by
  apply findMessage_nothing_of_prefixes
  intro k
  have h1 : p.take k <+: body := (List.take_prefix k p).trans hp
  rw [List.prefix_iff_eq_take.1 h1]
  apply hmin
  have := List.length_take_le' k p
  omega

theorem StreamOk_tail (parse : Str → ParseRes M) (tags : List Str) (T : Option Nat)
    (sg : Seg M) (rest : List (Seg M)) (final : Str)
    (hok : StreamOk parse tags T (sg :: rest) final) : StreamOk parse tags T rest final :=
  ⟨fun s hs => hok.seg s (List.mem_cons_of_mem _ hs), hok.final⟩

theorem StreamOk_drop (parse : Str → ParseRes M) (tags : List Str) (T : Option Nat)
    (segs : List (Seg M)) (final : Str) (j : Nat)
    (hok : StreamOk parse tags T segs final) : StreamOk parse tags T (segs.drop j) final :=
  ⟨fun s hs => hok.seg s (List.mem_of_mem_drop hs), hok.final⟩

theorem StreamOk.toStreamOk2 {parse : Str → ParseRes M} {tags : List Str} {T : Option Nat}
    {segs : List (Seg M)} {final : Str} (hok : StreamOk parse tags T segs final) :
    StreamOk2 parse tags T segs final :=
  ⟨fun sg hs =>
    let ⟨hadm, hgap, hfit⟩ := hok.seg sg hs
    ⟨hadm, hgap, fits_mono T _ _ hfit (by simp)⟩, hok.final.1⟩

theorem StreamOk2_tail (parse : Str → ParseRes M) (tags : List Str) (T : Option Nat)
    (sg : Seg M) (rest : List (Seg M)) (final : Str)
    (hok : StreamOk2 parse tags T (sg :: rest) final) : StreamOk2 parse tags T rest final :=
  ⟨fun s hs => hok.seg s (List.mem_cons_of_mem _ hs), hok.final⟩

theorem Admissible_length (parse : Str → ParseRes M) (tags : List Str) (body : Str) (m : M)
    (hadm : Admissible parse tags body m) : 2 ≤ body.length := by
  obtain ⟨pre, c0, hend, _⟩ := hadm.ending
  rw [hend]; simp

theorem prefix_encode_cons {x : Str} {sg : Seg M} {rest : List (Seg M)} {final : Str}
    (hx : x <+: encode (sg :: rest) final) :
    (∃ x', x = sg.gap ++ sg.body ++ x' ∧ x' <+: encode rest final) ∨
      (x.length < sg.gap.length + sg.body.length ∧ x <+: sg.gap ++ sg.body) := by
  have hgb : sg.gap ++ sg.body <+: encode (sg :: rest) final := List.prefix_append _ _
  rcases Nat.lt_or_ge x.length (sg.gap.length + sg.body.length) with h | h
  · exact Or.inr ⟨h, List.prefix_of_prefix_length_le hx hgb (by simp; omega)⟩
  · obtain ⟨x', rfl⟩ := List.prefix_of_prefix_length_le hgb hx (by simpa using h)
    exact Or.inl ⟨x', rfl, (List.prefix_append_right_inj _).1 hx⟩

theorem countDone_past (sg : Seg M) (rest : List (Seg M)) (x' : Str) :
    countDone (sg :: rest) (sg.gap ++ sg.body ++ x').length = countDone rest x'.length + 1 := by
  have h : sg.gap.length + sg.body.length ≤ (sg.gap ++ sg.body ++ x').length := by simp
  have e : (sg.gap ++ sg.body ++ x').length - (sg.gap.length + sg.body.length) = x'.length := by
    simp only [List.length_append]; omega
  simp only [countDone, h, if_true, e, Nat.add_comm]

theorem countDone_before {sg : Seg M} {n : Nat} (h : n < sg.gap.length + sg.body.length)
    (rest : List (Seg M)) : countDone (sg :: rest) n = 0 := by
  simp only [countDone, Nat.not_le.2 h, if_false]

theorem countDone_zero2 (parse : Str → ParseRes M) (tags : List Str) (T : Option Nat)
    (segs : List (Seg M)) (final : Str) (hok : StreamOk2 parse tags T segs final) :
    countDone segs 0 = 0 := by
  cases segs with
  | nil => rfl
  | cons sg rest =>
    have := Admissible_length parse tags _ _ (hok.seg sg List.mem_cons_self).1
    exact countDone_before (by omega) rest

theorem countDone_zero (parse : Str → ParseRes M) (tags : List Str) (T : Option Nat)
    (segs : List (Seg M)) (final : Str) (hok : StreamOk parse tags T segs final) :
    countDone segs 0 = 0 :=
  countDone_zero2 parse tags T segs final hok.toStreamOk2

theorem countDone_all (final : Str) (segs : List (Seg M)) :
    countDone segs (encode segs final).length = segs.length := by
  induction segs with
  | nil => rfl
  | cons sg rest ih => rw [encode, countDone_past, ih, List.length_cons]

theorem cleanup_gap_body (tags : List Str) (hA2 : TagsOk tags) (g body z y : Str)
    (hg : NoOpener tags g) (hb : startsKnown tags body = true)
    (hy : y <+: body ++ z) (hne : y ≠ []) :
    cleanup tags (g ++ y) = y := by
  obtain ⟨t, htm, ht⟩ := (startsKnown_iff tags body).1 hb
  have ht' : ('<' :: t) <+: body ++ z := ht.trans (List.prefix_append _ _)
  cases y with
  | nil => exact absurd rfl hne
  | cons c y' =>
    have hc : c = '<' := by
      obtain ⟨u, hu⟩ := hy
      exact startsKnown_head tags c (y' ++ u)
        (show startsKnown tags (c :: y' ++ u) = true from hu ▸ startsKnown_append tags body z hb)
    subst hc
    have hstable : cleanup tags ('<' :: y') = '<' :: y' := by
      by_cases hs : startsKnown tags ('<' :: y') = true
      · exact cleanup_of_startsKnown tags _ hs
      · apply cleanup_lt_noLt
        rcases List.prefix_or_prefix_of_prefix ht' hy with h3 | h3
        · exact absurd ((startsKnown_iff tags _).2 ⟨t, htm, h3⟩) hs
        · intro hmem
          have h4 : y' <+: t := by simpa using h3
          exact hA2 t htm (h4.subset hmem)
    exact cleanup_gap tags hA2 g y' hg hstable

/-- `B` is a possible buffer once the prefix `x` of the stream has arrived.  After the segments complete in `x` (the
recursion is that of `countDone`): while `x` is within the junk in front of the next body, any suffix of it (the
threshold may have dropped a part); from the first character of the body on, exactly what has arrived of the body. -/
def At : List (Seg M) → Str → Str → Prop
  | [], x, B => B <:+ x
  | sg :: rest, x, B =>
    if sg.gap.length + sg.body.length ≤ x.length then At rest (x.drop (sg.gap.length + sg.body.length)) B
    else B <:+ x ∧ x <+: sg.gap ∨ x = sg.gap ++ B

theorem At_past (sg : Seg M) (rest : List (Seg M)) (x' B : Str) :
    At (sg :: rest) (sg.gap ++ sg.body ++ x') B ↔ At rest x' B := by
  have h : sg.gap.length + sg.body.length ≤ (sg.gap ++ sg.body ++ x').length := by simp
  have e : (sg.gap ++ sg.body ++ x').drop (sg.gap.length + sg.body.length) = x' := by
    rw [← List.length_append, List.drop_left]
  simp only [At, h, if_true, e]

theorem At_before {sg : Seg M} {x : Str} (h : x.length < sg.gap.length + sg.body.length) (rest : List (Seg M))
    (B : Str) : At (sg :: rest) x B ↔ B <:+ x ∧ x <+: sg.gap ∨ x = sg.gap ++ B := by
  simp only [At, Nat.not_le.2 h, if_false]

theorem At_nil : ∀ segs : List (Seg M), At segs [] []
  | [] => List.suffix_refl _
  | sg :: rest => by
    unfold At
    split
    · rw [List.drop_nil]
      exact At_nil rest
    · exact Or.inl ⟨List.suffix_refl _, List.nil_prefix⟩

theorem At_all (final : Str) (segs : List (Seg M)) (B : Str) :
    At segs (encode segs final) B ↔ B <:+ final := by
  induction segs with
  | nil => rfl
  | cons sg rest ih => rw [encode, At_past, ih]

theorem feed_junk (parse : Str → ParseRes M) (tags : List Str) (T : Option Nat)
    (hA1 : ParserNeedsOpener parse tags) {g x B q : Str} (hg : NoOpener tags g) (hx : x ++ q <+: g)
    (hB : B <:+ x) :
    (feed parse tags T B q).1 = [] ∧ (feed parse tags T B q).2 <:+ x ++ q := by
  obtain ⟨u, rfl⟩ := hB
  have hsuf : B ++ q <:+ u ++ B ++ q := ⟨u, by simp⟩
  have hno := NoOpener_suffix tags _ _ hsuf (NoOpener_of_prefix tags _ _ hx hg)
  exact ⟨processLoop_noOpener parse tags T hA1 _ (NoOpener_suffix tags _ _ (cleanup_suffix tags _) hno),
    ((processLoop_suffix parse tags T _).trans (cleanup_suffix tags _)).trans hsuf⟩

/-- `hB` is `At` within the first segment (`At_before`), `y` what has arrived from its body on -/
theorem cleanup_sync (tags : List Str) (hA2 : TagsOk tags) {g body z x B q y : Str} (hg : NoOpener tags g)
    (hb : startsKnown tags body = true) (hB : B <:+ x ∧ x <+: g ∨ x = g ++ B) (hxq : x ++ q = g ++ y)
    (hy : y <+: body ++ z) (hne : y ≠ []) : cleanup tags (B ++ q) = y := by
  rcases hB with ⟨⟨u, rfl⟩, v, rfl⟩ | rfl
  · have hq : q = v ++ y := by simpa [List.append_assoc] using hxq
    rw [hq, ← List.append_assoc]
    exact cleanup_gap_body tags hA2 _ body z y (NoOpener_suffix tags _ _ ⟨u, by simp⟩ hg) hb hy hne
  · rw [List.append_assoc] at hxq
    rw [List.append_cancel_left hxq]
    exact cleanup_gap_body tags hA2 [] body z y (fun i => by rw [List.drop_nil]; exact startsKnown_nil tags) hb hy hne

theorem feed_stream2 (parse : Str → ParseRes M) (tags : List Str) (T : Option Nat)
    (hA1 : ParserNeedsOpener parse tags) (hA2 : TagsOk tags) (final : Str) :
    ∀ (segs : List (Seg M)), StreamOk2 parse tags T segs final →
      ∀ (x B q : Str), At segs x B → x ++ q <+: encode segs final →
      (segs.take (countDone segs x.length)).map (·.msg) ++ (feed parse tags T B q).1 =
          (segs.take (countDone segs (x ++ q).length)).map (·.msg) ∧
        At segs (x ++ q) (feed parse tags T B q).2 := by
  intro segs
  induction segs with
  | nil =>
    intro hok x B q hB hx
    exact feed_junk parse tags T hA1 hok.final hx hB
  | cons sg rest ih =>
    intro hok x B q hB hx
    obtain ⟨hadm, hgap, hfit⟩ := hok.seg sg List.mem_cons_self
    have hrest := StreamOk2_tail parse tags T sg rest final hok
    rcases prefix_encode_cons ((List.prefix_append x q).trans hx) with ⟨x', rfl, -⟩ | ⟨hlt, -⟩
    · rw [List.append_assoc (sg.gap ++ sg.body) x' q] at hx ⊢
      obtain ⟨h1, h2⟩ := ih hrest x' B q ((At_past sg rest x' B).1 hB) ((List.prefix_append_right_inj _).1 hx)
      rw [countDone_past, countDone_past, At_past, List.take_succ_cons, List.take_succ_cons, List.map_cons,
        List.map_cons, List.cons_append, h1]
      exact ⟨rfl, h2⟩
    · rw [countDone_before hlt]
      rw [At_before hlt] at hB
      rcases prefix_encode_cons hx with ⟨z, hz, hz'⟩ | ⟨hlt', hxq⟩
      · -- `q` completes the body: its message is delivered, and what follows is fed to the empty buffer
        have hblen := Admissible_length parse tags _ _ hadm
        have hcl : cleanup tags (B ++ q) = sg.body ++ z :=
          cleanup_sync tags hA2 hgap hadm.starts hB (by rw [hz, List.append_assoc]) (List.prefix_refl _)
            (List.ne_nil_of_length_pos (by rw [List.length_append]; omega))
        obtain ⟨h1, h2⟩ := ih hrest [] [] z (At_nil rest) hz'
        rw [List.nil_append] at h1 h2
        rw [List.length_nil, countDone_zero2 parse tags T rest final hrest] at h1
        rw [hz, countDone_past, At_past, List.take_succ_cons, List.map_cons, ← h1]
        unfold feed process at h2 ⊢
        rw [hcl, processLoop_found parse tags T _ sg.msg z (findMessage_complete parse tags sg.body sg.msg hadm z)]
        exact ⟨rfl, h2⟩
      · rw [countDone_before hlt', At_before hlt']
        have hgb : sg.gap <+: sg.gap ++ sg.body := List.prefix_append _ _
        rcases Nat.lt_or_ge sg.gap.length (x ++ q).length with hl | hl
        · -- within the body: exactly what has arrived of it is kept
          obtain ⟨p, hp⟩ := List.prefix_of_prefix_length_le hgb hxq (Nat.le_of_lt hl)
          have hpb : p <+: sg.body := (List.prefix_append_right_inj sg.gap).1 (hp ▸ hxq)
          have hplt : p.length < sg.body.length := by rw [← hp, List.length_append] at hlt'; omega
          have hcl : cleanup tags (B ++ q) = p :=
            cleanup_sync tags hA2 (z := []) hgap hadm.starts hB hp.symm (by simpa using hpb)
              (by rintro rfl; rw [← hp] at hl; simp at hl)
          unfold feed process
          rw [hcl, processLoop_keep parse tags T p (findMessage_properPrefix parse sg.body p hadm.minimal hpb hplt)
            (fits_mono T _ _ hfit (Nat.le_of_lt hplt))]
          exact ⟨rfl, Or.inr hp.symm⟩
        · -- still within the junk
          have hg := List.prefix_of_prefix_length_le hxq hgb hl
          obtain ⟨h1, h2⟩ := feed_junk parse tags T hA1 hgap hg (hB.elim (·.1) fun h => h ▸ List.suffix_append _ _)
          exact ⟨h1, Or.inl ⟨h2, hg⟩⟩

theorem processLoop_stream2 (parse : Str → ParseRes M) (tags : List Str) (T : Option Nat)
    (hA1 : ParserNeedsOpener parse tags) (hA2 : TagsOk tags) (final : Str)
    (segs : List (Seg M)) (hok : StreamOk2 parse tags T segs final) (x : Str) (hx : x <+: encode segs final) :
    (processLoop parse tags T (cleanup tags x)).1 = (segs.take (countDone segs x.length)).map (·.msg) ∧
      At segs x (processLoop parse tags T (cleanup tags x)).2 := by
  have h := feed_stream2 parse tags T hA1 hA2 final segs hok [] [] x (At_nil segs) hx
  rwa [List.length_nil, countDone_zero2 parse tags T segs final hok] at h

theorem session_at (parse : Str → ParseRes M) (tags : List Str) (T : Option Nat)
    (hA1 : ParserNeedsOpener parse tags) (hA2 : TagsOk tags) (final : Str)
    (segs : List (Seg M)) (hok : StreamOk2 parse tags T segs final) :
    ∀ (pieces : List Str) (x B : Str), At segs x B → x ++ pieces.flatten <+: encode segs final →
      (segs.take (countDone segs x.length)).map (·.msg) ++ (session parse tags T B pieces).1.flatten =
          (segs.take (countDone segs (x ++ pieces.flatten).length)).map (·.msg) ∧
        At segs (x ++ pieces.flatten) (session parse tags T B pieces).2 := by
  intro pieces
  induction pieces with
  | nil => intro x B hB _; simpa [session] using hB
  | cons q ps ih =>
    intro x B hB hx
    rw [List.flatten_cons, ← List.append_assoc] at hx ⊢
    obtain ⟨h1, h2⟩ := feed_stream2 parse tags T hA1 hA2 final segs hok x B q hB ((List.prefix_append _ _).trans hx)
    obtain ⟨h3, h4⟩ := ih (x ++ q) _ h2 hx
    simp only [session, List.flatten_cons]
    rw [← List.append_assoc, h1, h3]
    exact ⟨rfl, h4⟩

theorem session_stream2 (parse : Str → ParseRes M) (tags : List Str) (T : Option Nat)
    (hA1 : ParserNeedsOpener parse tags) (hA2 : TagsOk tags) (final : Str)
    (segs : List (Seg M)) (hok : StreamOk2 parse tags T segs final)
    (pieces : List Str) (hpre : pieces.flatten <+: encode segs final) :
    (session parse tags T [] pieces).1.flatten =
        (segs.take (countDone segs pieces.flatten.length)).map (·.msg) ∧
      At segs pieces.flatten (session parse tags T [] pieces).2 := by
  have h := session_at parse tags T hA1 hA2 final segs hok pieces [] [] (At_nil segs) hpre
  rwa [List.length_nil, countDone_zero2 parse tags T segs final hok] at h

theorem session_whole (parse : Str → ParseRes M) (tags : List Str) (T : Option Nat)
    (hA1 : ParserNeedsOpener parse tags) (hA2 : TagsOk tags) (final : Str)
    (segs : List (Seg M)) (hok : StreamOk2 parse tags T segs final)
    (pieces : List Str) (hflat : pieces.flatten = encode segs final) :
    (session parse tags T [] pieces).1.flatten = segs.map (·.msg) ∧ (session parse tags T [] pieces).2 <:+ final := by
  have h := session_stream2 parse tags T hA1 hA2 final segs hok pieces (hflat ▸ List.prefix_refl _)
  rwa [hflat, countDone_all, List.take_length, At_all] at h

theorem session_clean (parse : Str → ParseRes M) (tags : List Str) (T : Option Nat) (hA2 : TagsOk tags) :
    ∀ (pieces : List Str) (B : Str), cleanup tags B = B →
      cleanup tags (session parse tags T B pieces).2 = (session parse tags T B pieces).2 := by
  intro pieces
  induction pieces with
  | nil => intro B hB; exact hB
  | cons q ps ih =>
    intro B _
    exact ih _ (processLoop_clean parse tags T hA2 _ (cleanup_idem tags hA2 _))

theorem session_final_nil (parse : Str → ParseRes M) (tags : List Str) (T : Option Nat)
    (hA1 : ParserNeedsOpener parse tags) (hA2 : TagsOk tags) (final : Str) (hfin : '<' ∉ final)
    (segs : List (Seg M)) (hok : StreamOk2 parse tags T segs final)
    (pieces : List Str) (hflat : pieces.flatten = encode segs final) :
    (session parse tags T [] pieces).2 = [] := by
  rw [← session_clean parse tags T hA2 pieces [] (cleanup_nil tags)]
  exact (cleanup_eq_nil_iff tags _).2 fun hm =>
    hfin ((session_whole parse tags T hA1 hA2 final segs hok pieces hflat).2.subset hm)

end Indi.Buf
