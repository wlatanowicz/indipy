/-
  C01: what a batch of messages does about each property of a driver (`KeyCase`, `DevBatch`), and the batch of a
  whole deployment (`WB`): the messages carrying a driver's name are that driver's batch.
-/
import Indi.Proofs.SysDefs
import Indi.Proofs.DevBResp

namespace Indi.SysP
open Indi Indi.Dev Indi.Cli Indi.Sys Indi.Spec.Sys Indi.Spec.Dev

theorem names_inj {d : Device} (hn : namesDistinct d = true) {gi vi gj vj : Nat} {g g2 : Group} {v v2 : Vec}
    (h1 : getVec d gi vi = some (g, v)) (h2 : getVec d gj vj = some (g2, v2)) (hv : v.name = v2.name) :
    gi = gj ∧ vi = vj := by
  have hx : ((g, v), (gi, vi)) ∈ DevBResp.full d := DevBResp.mem_full.2 h1
  have hy : ((g2, v2), (gj, vj)) ∈ DevBResp.full d := DevBResp.mem_full.2 h2
  have := inj_of_nodup_map (fun (x : (Group × Vec) × (Nat × Nat)) => x.1.2.name) (DevBResp.names_nodup hn) hx hy hv
  simp only [Prod.mk.injEq] at this
  exact this.2

theorem mem_allVecs {d : Device} {gv : Group × Vec} : gv ∈ allVecs d ↔ ∃ gi vi, getVec d gi vi = some gv := by
  rw [DevBResp.allVecs_eq, List.mem_map]
  constructor
  · rintro ⟨x, hx, rfl⟩
    exact ⟨x.2.1, x.2.2, DevBResp.mem_full.1 hx⟩
  · rintro ⟨gi, vi, h⟩
    exact ⟨(gv, (gi, vi)), DevBResp.mem_full.2 h, rfl⟩

def DevOK (d : Device) : Prop := WF d = true ∧ ∀ gi vi g v, getVec d gi vi = some (g, v) → VG v

theorem DevOK.allVG {d : Device} (h : DevOK d) : AllVG d := h.2

def atKey (dn vn : Str) (ms : List Msg) : List Msg := ms.filter fun m => decide (key m = (some dn, some vn))

/-- what a batch does about one property, which went from `(g0, v0)` to `(g', v')`:
nothing (and it looks the same); it is deleted; it is announced (every message shows the final view and a
definition is among them); it is updated (only updates, the last one shows the final view) -/
def KeyCase (dn : Str) (g0 : Group) (v0 : Vec) (g' : Group) (v' : Vec) (ms : List Msg) : Prop :=
  (atKey dn v'.name ms = [] ∧ vecEnabled g' v' = vecEnabled g0 v0 ∧ (vecEnabled g0 v0 = true → ViewEq g0 v0 g' v')) ∨
  (vecEnabled g' v' = false ∧ atKey dn v'.name ms ≠ [] ∧ ∀ m ∈ atKey dn v'.name ms, m = delMsg dn v'.name) ∨
  (vecEnabled g' v' = true ∧ (∀ m ∈ atKey dn v'.name ms, IsDef dn g' v' m ∨ IsSetV dn g' v' m) ∧
     ∃ m ∈ atKey dn v'.name ms, IsDef dn g' v' m) ∨
  (vecEnabled g' v' = true ∧ vecEnabled g0 v0 = true ∧ ShapeEq g0 v0 g' v' ∧
     (∀ m ∈ atKey dn v'.name ms, IsSetS dn g' v' m) ∧
     ∃ last, (atKey dn v'.name ms).getLast? = some last ∧ IsSetV dn g' v' last)

theorem KeyCase.nothing {dn g0 v0 g' v' ms} (hE : atKey dn v'.name ms = []) (hen : vecEnabled g' v' = vecEnabled g0 v0)
    (hv : vecEnabled g0 v0 = true → ViewEq g0 v0 g' v') : KeyCase dn g0 v0 g' v' ms :=
  Or.inl ⟨hE, hen, hv⟩

theorem KeyCase.deleted {dn g0 v0 g' v' ms} (hen : vecEnabled g' v' = false) (hne : atKey dn v'.name ms ≠ [])
    (hdel : ∀ m ∈ atKey dn v'.name ms, m = delMsg dn v'.name) : KeyCase dn g0 v0 g' v' ms :=
  Or.inr (Or.inl ⟨hen, hne, hdel⟩)

theorem KeyCase.announced {dn g0 v0 g' v' ms} (hen : vecEnabled g' v' = true)
    (hall : ∀ m ∈ atKey dn v'.name ms, IsDef dn g' v' m ∨ IsSetV dn g' v' m)
    (hd : ∃ m ∈ atKey dn v'.name ms, IsDef dn g' v' m) : KeyCase dn g0 v0 g' v' ms :=
  Or.inr (Or.inr (Or.inl ⟨hen, hall, hd⟩))

theorem KeyCase.updated {dn g0 v0 g' v' ms} (hen : vecEnabled g' v' = true) (hen0 : vecEnabled g0 v0 = true)
    (hs : ShapeEq g0 v0 g' v') (hall : ∀ m ∈ atKey dn v'.name ms, IsSetS dn g' v' m)
    (hl : ∃ last, (atKey dn v'.name ms).getLast? = some last ∧ IsSetV dn g' v' last) : KeyCase dn g0 v0 g' v' ms :=
  Or.inr (Or.inr (Or.inr ⟨hen, hen0, hs, hall, hl⟩))

/-- what one driver publishes in an operation, and where it ends up -/
structure DevBatch (d : Device) (ms : List Msg) (d' : Device) : Prop where
  name : d'.name = d.name
  ok : DevOK d'
  emitted : ∀ m ∈ ms, Emitted m ∧ ∃ gi vi g' v', getVec d' gi vi = some (g', v') ∧ key m = (some d.name, some v'.name)
  none : ∀ gi vi, getVec d gi vi = none → getVec d' gi vi = none
  cases : ∀ gi vi g0 v0, getVec d gi vi = some (g0, v0) →
    ∃ g' v', getVec d' gi vi = some (g', v') ∧ v'.name = v0.name ∧ KeyCase d.name g0 v0 g' v' ms

/-- each driver publishes its batch; the router hands out the batches one after the other -/
def WB (devs : List Device) (ms : List Msg) (devs' : List Device) : Prop :=
  ∃ bds : List (List Msg × Device),
    List.Forall₂ (fun d bd => DevBatch d bd.1 bd.2) devs bds ∧ ms = (bds.map (·.1)).flatten ∧ devs' = bds.map (·.2)

theorem WB.nil : WB [] [] [] := ⟨[], .nil, rfl, rfl⟩

theorem WB.cons {d d' : Device} {ms ms' : List Msg} {devs devs' : List Device} (hb : DevBatch d ms d')
    (h : WB devs ms' devs') : WB (d :: devs) (ms ++ ms') (d' :: devs') := by
  obtain ⟨bds, hF, rfl, rfl⟩ := h
  exact ⟨(ms, d') :: bds, .cons hb hF, rfl, rfl⟩

theorem DevBatch.refl {d : Device} (hok : DevOK d) : DevBatch d [] d :=
  ⟨rfl, hok, (fun _ h => nomatch h), fun _ _ h => h, fun _ _ g0 v0 h =>
    ⟨g0, v0, h, rfl, .nothing rfl rfl fun _ => ViewEq.refl g0 v0⟩⟩

theorem WB.skip {d : Device} {ms : List Msg} {devs devs' : List Device} (hd : DevOK d) (h : WB devs ms devs') :
    WB (d :: devs) ms (d :: devs') := WB.cons (DevBatch.refl hd) h

theorem WB.refl : ∀ {devs : List Device}, (∀ d ∈ devs, DevOK d) → WB devs [] devs
  | [], _ => WB.nil
  | _ :: _, hok => (WB.refl fun x hx => hok x (List.mem_cons_of_mem _ hx)).skip (hok _ List.mem_cons_self)

@[elab_as_elim] theorem WB.ind {motive : ∀ devs devs' ms, WB devs ms devs' → Prop} (nil : motive [] [] [] WB.nil)
    (cons : ∀ {d d' b ds ms ds'} (hb : DevBatch d b d') (h : WB ds ms ds'), motive ds ds' ms h →
      motive (d :: ds) (d' :: ds') (b ++ ms) (WB.cons hb h))
    {devs devs' : List Device} {ms : List Msg} (h : WB devs ms devs') : motive devs devs' ms h := by
  obtain ⟨bds, hF, rfl, rfl⟩ := h
  induction hF with
  | nil => exact nil
  | cons hb t ih => exact cons hb ⟨_, t, rfl, rfl⟩ ih

theorem DevBatch.dev {d d' : Device} {ms : List Msg} (h : DevBatch d ms d') : ∀ m ∈ ms, (key m).1 = some d.name :=
  fun m hm => by obtain ⟨_, _, _, _, _, _, hk⟩ := h.emitted m hm; rw [hk]

theorem WB.names {devs devs' : List Device} {ms : List Msg} (h : WB devs ms devs') :
    devs'.map (·.name) = devs.map (·.name) := by
  induction h using WB.ind with
  | nil => rfl
  | cons hb _ ih => rw [List.map_cons, List.map_cons, hb.name, ih]

theorem WB.msgs {devs devs' : List Device} {ms : List Msg} (h : WB devs ms devs') :
    ∀ m ∈ ms, Emitted m ∧ ∃ d ∈ devs, (key m).1 = some d.name := by
  induction h using WB.ind with
  | nil => exact fun _ h => nomatch h
  | cons hb _ ih =>
    intro m hm
    rcases List.mem_append.1 hm with hm | hm
    · exact ⟨(hb.emitted m hm).1, _, List.mem_cons_self, hb.dev m hm⟩
    · obtain ⟨he, d, hd, hk⟩ := ih m hm
      exact ⟨he, d, List.mem_cons_of_mem _ hd, hk⟩

theorem WB.ok {devs devs' : List Device} {ms : List Msg} (h : WB devs ms devs') : ∀ d' ∈ devs', DevOK d' := by
  induction h using WB.ind with
  | nil => exact fun _ h => nomatch h
  | cons hb _ ih =>
    intro d' hd'
    rcases List.mem_cons.1 hd' with rfl | hd'
    exacts [hb.ok, ih d' hd']

theorem mem_atKey {dn vn : Str} {ms : List Msg} {m : Msg} :
    m ∈ atKey dn vn ms ↔ m ∈ ms ∧ key m = (some dn, some vn) := by
  simp [atKey]

theorem atKey_append (dn vn : Str) (a b : List Msg) : atKey dn vn (a ++ b) = atKey dn vn a ++ atKey dn vn b :=
  List.filter_append ..

theorem atKey_other {dn vn : Str} {ms : List Msg} (h : ∀ m ∈ ms, (key m).1 ≠ some dn) : atKey dn vn ms = [] :=
  List.filter_eq_nil_iff.2 fun m hm hk => h m hm (by rw [of_decide_eq_true hk])

/-- the messages of a deployment's batch that carry a driver's name are that driver's batch -/
theorem WB.device {devs devs' : List Device} {ms : List Msg} (h : WB devs ms devs') (hnd : (devs.map (·.name)).Nodup) :
    ∀ d' ∈ devs', ∃ d ∈ devs, ∃ b, DevBatch d b d' ∧ (∀ vn, atKey d.name vn ms = atKey d.name vn b) ∧
      (∀ m ∈ ms, (key m).1 = some d.name → m ∈ b) := by
  induction h using WB.ind with
  | nil => exact fun _ h => nomatch h
  | @cons d0 d0' b ds ms ds' hb h ih =>
    rw [List.map_cons, List.nodup_cons] at hnd
    have hms : ∀ m ∈ ms, (key m).1 ≠ some d0.name := fun m hm hk => by
      obtain ⟨_, d, hd, hk'⟩ := h.msgs m hm
      rw [hk', Option.some.injEq] at hk
      exact hnd.1 (List.mem_map.2 ⟨d, hd, hk⟩)
    intro d' hd'
    rcases List.mem_cons.1 hd' with rfl | hd'
    · refine ⟨d0, List.mem_cons_self, b, hb, fun vn => ?_, fun m hm hk => ?_⟩
      · rw [atKey_append, atKey_other hms, List.append_nil]
      · exact (List.mem_append.1 hm).elim id fun hm => (hms m hm hk).elim
    · obtain ⟨d, hd, b', hb', h1, h2⟩ := ih hnd.2 d' hd'
      have hb0 : ∀ m ∈ b, (key m).1 ≠ some d.name := fun m hm hk => by
        rw [hb.dev m hm, Option.some.injEq] at hk
        exact hnd.1 (List.mem_map.2 ⟨d, hd, hk.symm⟩)
      refine ⟨d, List.mem_cons_of_mem _ hd, b', hb', fun vn => ?_, fun m hm hk => ?_⟩
      · rw [← h1, atKey_append, atKey_other hb0, List.nil_append]
      · exact (List.mem_append.1 hm).elim (fun hm => (hb0 m hm hk).elim) fun hm => h2 m hm hk

end Indi.SysP
