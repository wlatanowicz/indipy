/-
  C01, driver side: operations that announce vectors (enable/disable, getProperties): every message describes the
  final view of the vector it names (`ASum`).  `ASum` is proved of the operations themselves, not read off their
  `Dev.Steps` (as the writing side reads `WRun.sum` off a `WRunAt`): it says at which of the positions `L` the vector
  of each message stands and that every position of `L` got its definition or deletion, and a `Steps` records neither
  the positions it went through nor that no exception cut the list short (`announceAll` and `sendDefs` stop at one).
-/
import Indi.Proofs.SysVec

namespace Indi.SysP
open Indi Indi.Dev Indi.Cli Indi.Sys Indi.Spec.Sys Indi.Spec.Dev

/-- `d'` is `d` after reads that stuck: the same vectors for every reader, good where they were -/
abbrev Reads (d d' : Device) : Prop := Rel (fun _ _ g v g' v' => GEq g g' ∧ Same v v' ∧ (VG v → VG v')) d d'

theorem Reads.refl (d : Device) : Reads d d := Rel.refl (fun _ _ g v => ⟨GEq.refl g, Same.refl v, id⟩) d

/-- summary of a run of announcements of the vectors at the positions `L` -/
structure ASum (d : Device) (L : List (Nat × Nat)) (ms : List Msg) (d' : Device) : Prop where
  rel : Reads d d'
  msgs : ∀ m ∈ ms, ∃ gi vi g' v', (gi, vi) ∈ L ∧ getVec d' gi vi = some (g', v') ∧ AMsg d.name g' v' m
  cover : ∀ gi vi g' v', (gi, vi) ∈ L → getVec d' gi vi = some (g', v') → ∃ m ∈ ms, AHead d.name g' v' m

theorem ASum.nil (d : Device) : ASum d [] [] d where
  rel := Reads.refl d
  msgs := fun m hm => by cases hm
  cover := fun _ _ _ _ h => by cases h

theorem ASum.none {d : Device} {gi vi : Nat} (hn : getVec d gi vi = none) : ASum d [(gi, vi)] [] d where
  rel := Reads.refl d
  msgs := fun m hm => by cases hm
  cover := fun gj vj g' v' hL hg' => by
    obtain ⟨rfl, rfl⟩ := Prod.mk.inj (List.mem_singleton.1 hL)
    rw [hn] at hg'; cases hg'

theorem ASum.allVG {d d' : Device} {L : List (Nat × Nat)} {ms : List Msg} (h : ASum d L ms d') (hd : AllVG d) :
    AllVG d' := fun _ _ _ _ hg' =>
  let ⟨_, _, h0, _, _, hvg⟩ := h.rel.back hg'
  hvg (hd _ _ _ _ h0)

theorem ASum.comp {d d1 d' : Device} {L1 L2 : List (Nat × Nat)} {ms1 ms2 : List Msg} (h1 : ASum d L1 ms1 d1)
    (h2 : ASum d1 L2 ms2 d') : ASum d (L1 ++ L2) (ms1 ++ ms2) d' where
  rel := Rel.trans (fun _ _ _ _ _ _ _ _ a b => ⟨a.1.trans b.1, a.2.1.trans b.2.1, fun h => b.2.2 (a.2.2 h)⟩) h1.rel h2.rel
  msgs := by
    intro m hm
    rcases List.mem_append.1 hm with hm | hm
    · obtain ⟨gi, vi, g1, v1, hL, hg1, ham⟩ := h1.msgs m hm
      obtain ⟨g', v', hg', hge, hs, _⟩ := h2.rel.some hg1
      exact ⟨gi, vi, g', v', List.mem_append_left _ hL, hg', ham.transport hge hs⟩
    · obtain ⟨gi, vi, g', v', hL, hg', ham⟩ := h2.msgs m hm
      exact ⟨gi, vi, g', v', List.mem_append_right _ hL, hg', by rw [← h1.rel.name]; exact ham⟩
  cover := by
    intro gi vi g' v' hL hg'
    rcases List.mem_append.1 hL with hL | hL
    · obtain ⟨g1, v1, hg1, hge, hs, _⟩ := h2.rel.back hg'
      obtain ⟨m, hm, hh⟩ := h1.cover gi vi g1 v1 hL hg1
      exact ⟨m, List.mem_append_left _ hm, hh.transport hge hs⟩
    · obtain ⟨m, hm, hh⟩ := h2.cover gi vi g' v' hL hg'
      exact ⟨m, List.mem_append_right _ hm, by rw [← h1.rel.name]; exact hh⟩

theorem ASum.single {d d' : Device} {gi vi : Nat} {g' : Group} {v' : Vec} {ms : List Msg}
    (hrel : Reads d d') (hg' : getVec d' gi vi = some (g', v')) (hms : ∀ m ∈ ms, AMsg d.name g' v' m)
    (hh : ∃ m ∈ ms, AHead d.name g' v' m) : ASum d [(gi, vi)] ms d' where
  rel := hrel
  msgs := fun m hm => ⟨gi, vi, g', v', List.mem_singleton.2 rfl, hg', hms m hm⟩
  cover := by
    intro gj vj g'' v'' hL hg''
    obtain ⟨rfl, rfl⟩ := Prod.mk.inj (List.mem_singleton.1 hL)
    rw [hg'] at hg''
    obtain ⟨rfl, rfl⟩ := Prod.mk.inj (Option.some.inj hg'')
    exact hh

/-- publishing the definition (or deletion) of one vector, which is then left as `v'`: the same vector for every reader
(the reads made while the definition — and a following update — were built have stuck) -/
theorem head_def {d : Device} {gi vi : Nat} {g : Group} {v : Vec} {dm : Msg} (v' : Vec) (hsame : Same v v') (hvg' : VG v')
    (hg : getVec d gi vi = some (g, v)) (hvg : VG v) (hdm : defMsg d.name g v = .ok dm) :
    Reads d (setVec d gi vi v') ∧
      ∃ g', getVec (setVec d gi vi v') gi vi = some (g', v') ∧ GEq g g' ∧ AHead d.name g' v' dm := by
  obtain ⟨g', hg', hge'⟩ := getVec_setVec_self v' hg
  refine ⟨rel_setVec v' hg (fun _ hge => ⟨hge, hsame, fun _ => hvg'⟩) fun _ _ _ _ _ _ _ hge => ⟨hge, Same.refl _, id⟩,
    g', hg', hge', AHead.transport (g1 := g) (v1 := v) ?_ hge' hsame⟩
  by_cases hen : vecEnabled g v = true
  · exact Or.inl ⟨hen, g, v, hdm, hen, hvg, ViewEq.refl g v⟩
  · simp only [Bool.not_eq_true] at hen
    exact Or.inr ⟨hen, defMsg_disabled hdm hen⟩

theorem announce_asum {d : Device} (hd : AllVG d) (gi vi : Nat) :
    ASum d [(gi, vi)] (announce d gi vi).msgs (announce d gi vi).dev ∧ (announce d gi vi).exc = none := by
  unfold announce
  cases hg : getVec d gi vi with
  | none => exact ⟨.none hg, rfl⟩
  | some gv =>
    obtain ⟨g, v⟩ := gv
    have hvg := hd _ _ _ _ hg
    obtain ⟨dm, hdm⟩ := defMsg_ok d.name g hvg.ok
    -- the model's `if`s are `defV3 g v`, the vector after the definition was built, and `asgV3 g` of that, the vector
    -- after the update was built, both unfolded
    simp only [hdm]
    rw [show (if vecEnabled g v = true then refreshDef v else v) = defV3 g v from rfl]
    generalize hv1def : defV3 g v = v1
    have hv1 : VG v1 := hv1def ▸ hvg.refreshDef_if g
    have hsame1 : Same v v1 := hv1def ▸ same_refreshDef_if g v
    obtain ⟨sm, hsm⟩ := setMsg_ok d.name g hv1.ok
    simp only [hsm]
    have hsame12 := same_refresh_if g v1
    obtain ⟨hrel, g', hg', hge', hh⟩ := head_def (asgV3 g v1) (hsame1.trans hsame12) (hv1.refresh_if g) hg hvg hdm
    refine ⟨ASum.single hrel hg' ?_ ⟨dm, List.mem_cons_self, hh⟩, trivial⟩
    intro x hx
    rcases List.mem_cons.1 hx with rfl | hx
    · exact hh.msg
    · -- the update follows the definition and shows the same (refreshed) vector
      rw [Option.mem_toList.1 hx] at hsm
      exact Or.inl ⟨(hsame12.vecEnabled hge').trans (setMsg_some hsm).1,
        Or.inr ⟨g, v1, hsm, hv1, hsame12.view hge'.1⟩⟩

theorem announceAll_asum (gi : Nat) : ∀ (l : List Nat) (d : Device), AllVG d →
    ASum d (l.map fun vi => (gi, vi)) (announceAll gi d l).msgs (announceAll gi d l).dev
  | [], d, _ => ASum.nil d
  | vi :: rest, d, hd => by
    obtain ⟨h1, hexc⟩ := announce_asum hd gi vi
    simp only [announceAll, hexc]
    have h2 := announceAll_asum gi rest _ (h1.allVG hd)
    exact ASum.comp h1 h2

theorem sendDefs_asum : ∀ (L : List (Nat × Nat)) (d : Device), AllVG d →
    ASum d L (sendDefs d L).msgs (sendDefs d L).dev
  | [], d, _ => ASum.nil d
  | (gi, vi) :: rest, d, hd => by
    simp only [sendDefs]
    cases hg : getVec d gi vi with
    | none => exact ASum.comp (.none hg) (sendDefs_asum rest d hd)
    | some gv =>
      obtain ⟨g, v⟩ := gv
      have hvg := hd _ _ _ _ hg
      obtain ⟨dm, hdm⟩ := defMsg_ok d.name g hvg.ok
      simp only [hdm]
      -- the vector the model stores, `if vecEnabled g v then refreshDef v else v`, is `defV3 g v` unfolded
      obtain ⟨hrel, g', hg', _, hh⟩ :=
        head_def (defV3 g v) (same_refreshDef_if g v) (hvg.refreshDef_if g) hg hvg hdm
      have h1 := ASum.single hrel hg' (fun m hm => List.mem_singleton.1 hm ▸ hh.msg) ⟨dm, List.mem_singleton.2 rfl, hh⟩
      exact ASum.comp h1 (sendDefs_asum rest _ (h1.allVG hd))

end Indi.SysP
