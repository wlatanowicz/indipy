/-
  C01: the orders in which a batch can reach a peer.  Whatever the peer's flags, the arrival interleaves the
  batch (or its part without BLOB updates) with its BLOB updates (`Arrival.inter`); the same holds of the
  messages addressing one property (`Arrival.filter`); messages that travel on one connection arrive in order
  (`Arrival.last`).  `nextOk` and `step` give every peer such an arrival (`Delivered`; C08 reads `nextOk` so too).
-/
import Indi.Proofs.SysList

namespace Indi.SysP
open Indi Indi.Sys

/-- `arrivals`, which is what `nextOk` admits, or the order of publication, which is what `Sys.step` delivers -/
def Arrival (p : Peer) (ms L : List Msg) : Prop := L ∈ arrivals p ms ∨ L = ms

theorem Arrival.inter {p : Peer} {ms L : List Msg} (h : Arrival p ms L) :
    Inter (ms.filter fun m => !isSetBlob m) (ms.filter isSetBlob) L ∨ Inter ms (ms.filter isSetBlob) L := by
  rcases h with h | rfl
  · unfold arrivals at h
    split at h
    · rw [List.mem_singleton] at h; subst h; exact Or.inl (Inter.self_filter _ _)
    · split at h
      · exact Or.inr ((mem_merges_iff _ _ _).1 h)
      · exact Or.inl ((mem_merges_iff _ _ _).1 h)
  · exact Or.inl (Inter.self_filter _ _)

theorem Arrival.filter {p : Peer} {ms L : List Msg} (h : Arrival p ms L) (q : Msg → Bool) :
    Arrival p (ms.filter q) (L.filter q) := by
  have comm : ∀ r : Msg → Bool, (ms.filter r).filter q = (ms.filter q).filter r := fun r => by
    rw [List.filter_filter, List.filter_filter]; congr 1; funext a; exact Bool.and_comm _ _
  rcases h with h | rfl
  · left
    unfold arrivals at h ⊢
    by_cases hi : p.inproc = true
    · rw [if_pos hi, List.mem_singleton] at h ⊢; rw [h]
    · rw [if_neg hi] at h ⊢
      by_cases ha : p.also = true
      · rw [if_pos ha] at h ⊢; rw [← comm]; exact filter_mem_merges q _ _ _ h
      · rw [if_neg ha] at h ⊢; rw [← comm, ← comm]; exact filter_mem_merges q _ _ _ h
  · exact Or.inr rfl

theorem arrival_sub {p : Peer} {ms L : List Msg} (h : Arrival p ms L) : ∀ m ∈ L, m ∈ ms := by
  intro m hm
  rcases h.inter with h | h <;> rcases (h.mem m).1 hm with h' | h'
  exacts [(List.mem_filter.1 h').1, (List.mem_filter.1 h').1, h', (List.mem_filter.1 h').1]

theorem arrival_sup {p : Peer} {ms L : List Msg} (h : Arrival p ms L) : ∀ m ∈ ms, isSetBlob m = false → m ∈ L := by
  intro m hm hsb
  rcases h.inter with h | h
  · exact (h.mem m).2 (Or.inl (List.mem_filter.2 ⟨hm, by simp [hsb]⟩))
  · exact (h.mem m).2 (Or.inl hm)

/-- when all messages travel on the same connection, they arrive in order (possibly twice) -/
theorem Arrival.last {p : Peer} {ms L : List Msg} (h : Arrival p ms L) (β : Bool) (hβ : ∀ m ∈ ms, isSetBlob m = β) :
    L.getLast? = ms.getLast? := by
  have hT : β = true → ms.filter isSetBlob = ms := fun e => List.filter_eq_self.2 fun m hm => e ▸ hβ m hm
  have hF : β = false → ms.filter isSetBlob = [] := fun e =>
    List.filter_eq_nil_iff.2 fun m hm => by simp [hβ m hm, e]
  rcases h.inter with h | h
  · -- one of the two connections carries nothing
    have : L = ms := by
      cases β
      · rw [hF rfl, List.filter_eq_self.2 fun m hm => by simp [hβ m hm]] at h; exact h.eq_of_nil_right
      · rw [hT rfl, List.filter_eq_nil_iff.2 fun m hm => by simp [hβ m hm]] at h; exact h.eq_of_nil_left
    rw [this]
  · cases β
    · rw [hF rfl] at h; rw [h.eq_of_nil_right]
    · rw [hT rfl] at h; exact h.getLast?.elim id id

theorem arrival_last {p : Peer} {ms L : List Msg} (h : Arrival p ms L) (q : Msg → Bool) (β : Bool)
    (hβ : ∀ m ∈ ms.filter q, isSetBlob m = β) (hne : ms.filter q ≠ []) :
    (L.filter q).getLast? = (ms.filter q).getLast? ∧ L.filter q ≠ [] := by
  have hl := (h.filter q).last β hβ
  refine ⟨hl, fun h0 => hne ?_⟩
  rw [h0, List.getLast?_nil, eq_comm, List.getLast?_eq_none_iff] at hl
  exact hl

theorem samePeer_eq {a b : Peer} (h : samePeer a b = true) : a = b := by
  simp only [samePeer, Bool.and_eq_true, beq_iff_eq] at h
  obtain ⟨⟨⟨h1, h2⟩, h3⟩, h4⟩ := h
  cases a; cases b
  simp only at h1 h2 h3 h4
  subst h1 h2 h3 h4
  rfl

/-- the arrival orders of a batch at the peers, one for each -/
def Delivered (r : Registry) (ms : List Msg) (peers peers' : List Peer) : Prop :=
  List.Forall₂ (fun p p' => ∃ L, Arrival p ms L ∧ p' = deliver r p L) peers peers'

theorem nextOk_unpack {r : Registry} {w w' : World} {op : Sys.Op} (h : nextOk r w op w' = true) :
    w'.devs = (react r w op).1 ∧ Delivered r (react r w op).2 w.peers w'.peers := by
  unfold nextOk at h
  simp only [Bool.and_eq_true, sameDevs, beq_iff_eq, List.all_eq_true] at h
  obtain ⟨⟨h1, h2⟩, h3⟩ := h
  refine ⟨h1.symm, List.forall₂_iff_zip.2 ⟨h2, fun {p p'} hz => ?_⟩⟩
  have := h3 (p, p') hz
  simp only [outcomes, List.any_eq_true, List.mem_map] at this
  obtain ⟨q, ⟨L, hL, rfl⟩, hq⟩ := this
  exact ⟨L, Or.inl hL, samePeer_eq hq⟩

/-- `step` is the schedule in which every peer receives the batch in order of publication -/
theorem step_unpack (r : Registry) (w : World) (op : Sys.Op) :
    (Sys.step r w op).devs = (react r w op).1 ∧
      Delivered r (react r w op).2 w.peers (Sys.step r w op).peers :=
  ⟨rfl, List.forall₂_map_right_iff.2 (List.forall₂_same.2 fun _ _ => ⟨_, Or.inr rfl, rfl⟩)⟩

end Indi.SysP
