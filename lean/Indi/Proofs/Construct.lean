/-
  The table-driven constructor characterised: what `checkGuard` lets through, in the terms of the
  specification's `guardOk`; `construct c kw = .ok m` as a statement about each stored field (`construct_of`,
  `construct_inv`); the keywords `from_xml` passes, by what a lookup in them finds (`KwFrom`).
-/
import Indi.Proofs.AList
import Indi.Spec.MsgValid

namespace Indi.C03

/-- the text value the parser delivers for the serialised value `v` -/
def canonVal : Option Str → Option Str
  | none => none
  | some t => if t.isEmpty then none else some (pyStrip t)

def toPy : Option Str → PyVal
  | none => .none
  | some t => .str t

def toOpt : PyVal → Option Str
  | .str t => some t
  | _ => none

theorem value_ne_children : s "value" ≠ s "children" := by decide

end Indi.C03

namespace Indi
open Indi.Spec.MsgValid Indi.C03

theorem C03.findClass_spec {tag : Str} {c : ClassSpec} : ∀ {cs : List ClassSpec},
    findClass tag cs = some c → c ∈ cs ∧ c.tag = tag := by
  have aux : ∀ (cs : List ClassSpec) (acc : Option ClassSpec),
      cs.foldl (fun acc c => if c.tag = tag then some c else acc) acc = some c →
        (c ∈ cs ∧ c.tag = tag) ∨ acc = some c := by
    intro cs
    induction cs with
    | nil => intro acc h; exact Or.inr h
    | cons x xs ih =>
      intro acc h
      simp only [List.foldl_cons] at h
      rcases ih _ h with h1 | h1
      · exact Or.inl ⟨List.mem_cons_of_mem _ h1.1, h1.2⟩
      · split at h1
        · rename_i ht; cases h1; exact Or.inl ⟨List.mem_cons_self .., ht⟩
        · exact Or.inr h1
  intro cs h
  exact (aux cs none h).resolve_right (fun h => nomatch h)

theorem C03.mem_scalarSpecs {c : ClassSpec} {f : FieldSpec} :
    f ∈ scalarSpecs c ↔ f ∈ c.fields ∧ f.name ≠ s "children" := by
  simp [scalarSpecs]

theorem C03.scalarSpecs_nodup {c : ClassSpec} (hn : (c.fields.map (·.name)).Nodup) :
    ((scalarSpecs c).map (·.name)).Nodup :=
  List.Nodup.sublist (List.Sublist.map _ List.filter_sublist) hn

theorem toOpt_toPy (o : Option Str) : toOpt (toPy o) = o := by cases o <;> rfl

theorem checkGuard_toPy {g : Guard} (hg : ∀ tags, g ≠ .children tags) (o : Option Str) :
    checkGuard g (toPy o) = if guardOk g o = true then .ok (toPy o) else .error .valueError := by
  cases g with
  | children tags => exact absurd rfl (hg tags)
  | any => rfl
  | oneOf vals => cases o <;> rfl
  | number => cases o <;> rfl

theorem C03.checkGuard_of_guardOk {g : Guard} {w : Option Str} (h : guardOk g w = true)
    (hg : ∀ tags, g ≠ .children tags) : checkGuard g (toPy w) = .ok (toPy w) := by
  rw [checkGuard_toPy hg, if_pos h]

theorem checkGuard_scalar {g : Guard} {x : PyVal} {o : Option Str} (hg : ∀ tags, g ≠ .children tags)
    (h : checkGuard g x = .ok (toPy o)) : x = toPy o ∧ guardOk g o = true := by
  have hx : ∀ v, checkGuard g x = .ok v → x = v := by
    intro v h
    cases g with
    | children tags => exact absurd rfl (hg tags)
    | any => cases h; rfl
    | oneOf vals => cases x <;> simp only [checkGuard] at h <;> (try split at h) <;> cases h <;> rfl
    | number => cases x <;> simp only [checkGuard] at h <;> (try split at h) <;> cases h <;> rfl
  cases hx _ h
  rw [checkGuard_toPy hg] at h
  split at h
  · exact ⟨rfl, ‹_›⟩
  · cases h

theorem checkGuard_children {tags : List Str} {x v : PyVal} (h : checkGuard (.children tags) x = .ok v) :
    ∃ ps, v = .parts ps ∧ ps.all (fun p => tags.contains p.tag) = true ∧ (x = .parts ps ∨ ps = []) := by
  cases x with
  | none => cases h; exact ⟨[], rfl, rfl, Or.inr rfl⟩
  | str t =>
    simp only [checkGuard] at h
    split at h
    · cases h; exact ⟨[], rfl, rfl, Or.inr rfl⟩
    · cases h
  | parts ps =>
    simp only [checkGuard] at h
    split at h
    · rename_i hall; cases h; exact ⟨ps, rfl, hall, Or.inl rfl⟩
    · cases h

theorem toPy_inj {a b : Option Str} (h : toPy a = toPy b) : a = b := by
  rw [← toOpt_toPy a, h, toOpt_toPy]

theorem alookup_of_kwGet {kw : List (Str × PyVal)} {k : Str} {x : PyVal} (h : kwGet kw (some k) = x)
    (hx : x ≠ .none) : alookup k kw = some x := by
  simp only [kwGet] at h
  cases hl : alookup k kw with
  | none => rw [hl] at h; exact absurd h.symm hx
  | some y => rw [hl] at h; exact congrArg some h

/-- the value `construct` stores for a field -/
def stored (kw : List (Str × PyVal)) (f : FieldSpec) : PyVal :=
  match checkGuard f.guard (kwGet kw f.source) with
  | .ok v => v
  | .error _ => .none

theorem stored_eq {kw : List (Str × PyVal)} {f : FieldSpec} {v : PyVal}
    (h : checkGuard f.guard (kwGet kw f.source) = .ok v) : stored kw f = v := by
  simp only [stored, h]

theorem buildFields_map (kw : List (Str × PyVal)) (G : FieldSpec → PyVal) :
    ∀ L : List FieldSpec, (∀ f ∈ L, checkGuard f.guard (kwGet kw f.source) = .ok (G f)) →
      buildFields kw L = .ok (L.map fun f => (f.name, G f))
  | [], _ => rfl
  | f :: fs, h => by
    have h1 := h f (List.mem_cons_self ..)
    have h2 := buildFields_map kw G fs (fun g hg => h g (List.mem_cons_of_mem _ hg))
    simp only [buildFields, h1, h2, List.map_cons]

theorem buildFields_inv (kw : List (Str × PyVal)) : ∀ {L : List FieldSpec} {fs : List (Str × PyVal)},
    buildFields kw L = .ok fs →
      (∀ f ∈ L, checkGuard f.guard (kwGet kw f.source) = .ok (stored kw f)) ∧
      fs = L.map fun f => (f.name, stored kw f)
  | [], fs, h => ⟨fun f hf => (nomatch hf), (Except.ok.inj h).symm⟩
  | f :: L, fs, h => by
    simp only [buildFields] at h
    split at h
    · cases h
    rename_i v hck
    split at h
    · cases h
    rename_i rest hb
    cases h
    obtain ⟨h1, rfl⟩ := buildFields_inv kw hb
    rw [List.map_cons, stored_eq hck]
    exact ⟨List.forall_mem_cons.2 ⟨hck.trans (by rw [stored_eq hck]), h1⟩, rfl⟩

theorem scalarView_map (G : FieldSpec → PyVal) (g : FieldSpec → Option Str) :
    ∀ L : List FieldSpec, (∀ f ∈ L, f.name ≠ s "children" → G f = toPy (g f)) →
      scalarView (L.map fun f => (f.name, G f)) =
        .ok ((L.filter fun f => f.name ≠ s "children").map fun f => (f.name, g f))
  | [], _ => rfl
  | f :: fs, h => by
    have ih := scalarView_map G g fs (fun x hx => h x (List.mem_cons_of_mem _ hx))
    simp only [List.map_cons, scalarView]
    by_cases hc : f.name = s "children"
    · rw [if_pos hc, ih, List.filter_cons_of_neg (by simpa using hc)]
    · rw [if_neg hc, ih, List.filter_cons_of_pos (by simpa using hc), h f (List.mem_cons_self ..) hc]
      cases hgf : g f <;> simp [toPy, hgf]

/-- `scalarView` succeeds only when no list of parts is stored in a scalar attribute -/
theorem scalarView_inv (G : FieldSpec → PyVal) : ∀ {L : List FieldSpec} {sv : List (Str × Option Str)},
    scalarView (L.map fun f => (f.name, G f)) = .ok sv →
      ∀ f ∈ L, f.name ≠ s "children" → G f = toPy (toOpt (G f))
  | [], _, _ => fun f hf => nomatch hf
  | g :: L, sv, h => by
    simp only [List.map_cons, scalarView] at h
    split at h
    · rename_i hc
      exact List.forall_mem_cons.2 ⟨fun hne => absurd hc hne, scalarView_inv G h⟩
    split at h
    · cases h
    · rename_i hG hr
      exact List.forall_mem_cons.2 ⟨fun _ => by rw [hG]; rfl, scalarView_inv G hr⟩
    · rename_i hG hr
      exact List.forall_mem_cons.2 ⟨fun _ => by rw [hG]; rfl, scalarView_inv G hr⟩
    · cases h

theorem childrenView_map (G : FieldSpec → PyVal) (L : List FieldSpec) :
    childrenView (L.map fun f => (f.name, G f)) =
      match (L.find? fun f => f.name = s "children").map G with
      | none => .ok none
      | some (.parts ps) => .ok (some ps)
      | some _ => .error .unsupported := by
  unfold childrenView
  rw [alookup_map_key]
  cases (L.find? fun f => f.name = s "children").map G with
  | none => rfl
  | some v => cases v <;> rfl

theorem childrenView_of_none {G : FieldSpec → PyVal} {L : List FieldSpec} (h : ∀ f ∈ L, f.name ≠ s "children") :
    childrenView (L.map fun f => (f.name, G f)) = .ok none := by
  rw [childrenView_map, List.find?_eq_none.2 (fun x hx => by simpa using h x hx)]
  rfl

theorem childrenView_of_mem {G : FieldSpec → PyVal} {L : List FieldSpec} (hn : (L.map (·.name)).Nodup)
    {f : FieldSpec} (hf : f ∈ L) (hname : f.name = s "children") {ps : List Part} (hG : G f = .parts ps) :
    childrenView (L.map fun f => (f.name, G f)) = .ok (some ps) := by
  rw [childrenView_map, ← hname, find?_key (·.name) hn hf, Option.map_some, hG]

theorem construct_of {c : ClassSpec} {kw : List (Str × PyVal)} (hs : c.supported = true)
    (hself : ahas (s "self") kw = false) (hreq : ∀ r ∈ c.required, ahas r kw = true)
    {G : FieldSpec → PyVal} (hG : ∀ f ∈ c.fields, checkGuard f.guard (kwGet kw f.source) = .ok (G f))
    {g : FieldSpec → Option Str} (hg : ∀ f ∈ c.fields, f.name ≠ s "children" → G f = toPy (g f))
    {ch : Option (List Part)} (hch : childrenView (c.fields.map fun f => (f.name, G f)) = .ok ch) :
    construct c kw = .ok { tag := c.tag, fields := (scalarSpecs c).map fun f => (f.name, g f), children := ch } := by
  unfold construct
  simp only [hs, hself, List.all_eq_true.2 hreq, buildFields_map kw G c.fields hG, scalarView_map G g c.fields hg, hch,
    Bool.not_true, Bool.false_eq_true, if_false]
  rfl

theorem construct_inv {c : ClassSpec} {kw : List (Str × PyVal)} {m : Msg} (h : construct c kw = .ok m) :
    c.supported = true ∧ (∀ r ∈ c.required, ahas r kw = true) ∧ m.tag = c.tag ∧
    (∀ f ∈ c.fields, checkGuard f.guard (kwGet kw f.source) = .ok (stored kw f)) ∧
    (∀ f ∈ scalarSpecs c, stored kw f = toPy (toOpt (stored kw f))) ∧
    m.fields = (scalarSpecs c).map (fun f => (f.name, toOpt (stored kw f))) ∧
    childrenView (c.fields.map fun f => (f.name, stored kw f)) = .ok m.children := by
  unfold construct at h
  split at h
  · cases h
  rename_i hsup
  split at h
  · cases h
  split at h
  · cases h
  rename_i hrq
  split at h
  · cases h
  rename_i fs hb
  obtain ⟨hck, rfl⟩ := buildFields_inv kw hb
  split at h
  · cases h
  · cases h
  rename_i sv ch hsv hcv
  cases h
  have hnp := scalarView_inv _ hsv
  rw [scalarView_map _ (fun f => toOpt (stored kw f)) c.fields hnp] at hsv
  cases hsv
  exact ⟨by simpa using hsup, by simpa using hrq, rfl, hck,
    fun f hf => hnp f (mem_scalarSpecs.1 hf).1 (mem_scalarSpecs.1 hf).2, rfl, hcv⟩

theorem field_view {c : ClassSpec} {kw : List (Str × PyVal)} {m : Msg} (h : construct c kw = .ok m)
    (hnd : (c.fields.map (·.name)).Nodup) {f : FieldSpec} (hf : f ∈ c.fields) (hk : f.name ≠ s "children") :
    ∃ o, checkGuard f.guard (kwGet kw f.source) = .ok (toPy o) ∧ alookup f.name m.fields = some o := by
  obtain ⟨_, _, _, hck, hnp, hfields, _⟩ := construct_inv h
  have hm : f ∈ scalarSpecs c := mem_scalarSpecs.2 ⟨hf, hk⟩
  refine ⟨toOpt (stored kw f), by rw [← hnp f hm]; exact hck f hf, alookup_of_mem ?_ ?_⟩
  · rw [hfields, List.map_map]; exact scalarSpecs_nodup hnd
  · rw [hfields]; exact List.mem_map.2 ⟨f, hm, rfl⟩

/-- keywords as a parser passes them: texts, except that a part's `value` may be `None` and a message's
`children` is the list of parts read -/
def KwFrom (isPart : Bool) (ps : List Part) (kw : List (Str × PyVal)) : Prop :=
  ∀ k v, alookup k kw = some v →
    (∃ t, v = .str t) ∨ (v = .none ∧ isPart = true ∧ k = s "value") ∨ (v = .parts ps ∧ isPart = false)

theorem KwFrom.none {isPart : Bool} {ps : List Part} {kw : List (Str × PyVal)} (h : KwFrom isPart ps kw) {k : Str}
    (ha : ahas k kw = true) (hk : kwGet kw (some k) = .none) : isPart = true ∧ k = s "value" := by
  obtain ⟨v, hv⟩ := Option.isSome_iff_exists.1 ha
  rw [kwGet, hv] at hk
  cases (show v = .none from hk)
  rcases h k _ hv with ⟨t, ht⟩ | ⟨_, h⟩ | ⟨ht, _⟩
  · cases ht
  · exact h
  · cases ht

theorem KwFrom.parts {isPart : Bool} {ps qs : List Part} {kw : List (Str × PyVal)} (h : KwFrom isPart ps kw) {k : Str}
    (hk : alookup k kw = some (.parts qs)) : qs = ps := by
  rcases h k _ hk with ⟨t, ht⟩ | ⟨ht, _⟩ | ⟨ht, _⟩ <;> cases ht
  rfl

theorem children_view {c : ClassSpec} {kw : List (Str × PyVal)} {m : Msg} (h : construct c kw = .ok m)
    (hnd : (c.fields.map (·.name)).Nodup) {isPart : Bool} {ps : List Part} (hkw : KwFrom isPart ps kw) :
    (∀ f ∈ c.fields, f.name = s "children" → ∀ tags, f.guard = .children tags →
        ∃ qs, m.children = some qs ∧ ∀ p ∈ qs, tags.contains p.tag = true ∧ p ∈ ps) ∧
    ((∀ f ∈ c.fields, f.name ≠ s "children") → m.children = none) := by
  obtain ⟨_, _, _, hck, _, _, hcv⟩ := construct_inv h
  constructor
  · intro f hf hname tags hg
    have hck := hck f hf
    rw [hg] at hck
    obtain ⟨qs, hv, hall, hx⟩ := checkGuard_children hck
    refine ⟨qs, (Except.ok.inj ((childrenView_of_mem hnd hf hname hv).symm.trans hcv)).symm,
      fun p hp => ⟨List.all_eq_true.1 hall p hp, ?_⟩⟩
    -- the stored children are the list the parser built
    rcases hx with hx | rfl
    · cases hs : f.source with
      | none => rw [hs] at hx; cases hx
      | some k => exact hkw.parts (alookup_of_kwGet (hs ▸ hx) (fun e => nomatch e)) ▸ hp
    · cases hp
  · intro hno
    exact (Except.ok.inj ((childrenView_of_none hno).symm.trans hcv)).symm

theorem alookup_partKw (x : Elem1) (k : Str) : alookup k (partKw x) =
    if s "value" = k then some (if x.text.isEmpty then .none else .str (pyStrip x.text))
    else (alookup k x.attrs).map .str := by
  rw [partKw, alookup_aset, alookup_attrKw]

theorem alookup_msgKw (x : Elem) (ps : List Part) (k : Str) : alookup k (msgKw x ps) =
    if x.text ≠ [] ∧ s "value" = k then some (.str (pyStrip x.text))
    else if ps ≠ [] ∧ s "children" = k then some (.parts ps)
    else (alookup k x.attrs).map .str := by
  unfold msgKw
  cases x.text <;> cases ps <;> simp [alookup_aset, alookup_attrKw]

theorem partKw_from (x : Elem1) : KwFrom true [] (partKw x) := by
  intro k v h
  rw [alookup_partKw] at h
  split at h
  · rename_i hk
    cases h
    split
    · exact .inr (.inl ⟨rfl, rfl, hk.symm⟩)
    · exact .inl ⟨_, rfl⟩
  · cases hl : alookup k x.attrs <;> rw [hl] at h <;> cases h
    exact .inl ⟨_, rfl⟩

theorem msgKw_from (x : Elem) (ps : List Part) : KwFrom false ps (msgKw x ps) := by
  intro k v h
  rw [alookup_msgKw] at h
  split at h
  · cases h; exact .inl ⟨_, rfl⟩
  split at h
  · cases h; exact .inr (.inr ⟨rfl, rfl⟩)
  · cases hl : alookup k x.attrs <;> rw [hl] at h <;> cases h
    exact .inl ⟨_, rfl⟩

theorem partFromXml_inv {reg : Registry} {x : Elem1} {p : Part} (h : partFromXml reg x = .ok p) :
    ∃ c m, findClass x.tag reg.parts = some c ∧ construct c (partKw x) = .ok m ∧
      p = { tag := m.tag, fields := m.fields } := by
  unfold partFromXml constructPart at h
  split at h
  · cases h
  · rename_i c hc
    split at h
    · cases h
    · rename_i m hm
      split at h <;> cases h
      exact ⟨c, m, hc, hm, rfl⟩

theorem fromXml_inv {reg : Registry} {x : Elem} {m : Msg} (h : fromXml reg x = .ok m) :
    ∃ c ps, findClass x.tag reg.messages = some c ∧ partsFromXml reg x.children = .ok ps ∧
      construct c (msgKw x ps) = .ok m := by
  unfold fromXml at h
  split at h
  · cases h
  · rename_i c hc
    split at h
    · cases h
    · exact ⟨c, _, hc, ‹_›, h⟩

theorem partsFromXml_mem {reg : Registry} : ∀ {xs : List Elem1} {ps : List Part}, partsFromXml reg xs = .ok ps →
    ∀ p ∈ ps, ∃ x, partFromXml reg x = .ok p
  | [], _, h, p, hp => by cases h; cases hp
  | x :: xs, _, h, p, hp => by
    simp only [partsFromXml] at h
    split at h
    · cases h
    rename_i q hq
    split at h
    · cases h
    rename_i qs hqs
    cases h
    rcases List.mem_cons.1 hp with rfl | hp
    · exact ⟨x, hq⟩
    · exact partsFromXml_mem hqs p hp

end Indi
