/-
  C01: the deployment.  What `react` publishes (`react_wb`), all peers after delivery under any arrival orders
  (`peers_deliver`, `world_next`), and the start: every peer connects and performs the wildcard handshake; the
  first handshake meets peers that know nothing, which is being in sync with the drivers with every group disabled
  (`off`).
-/
import Indi.Proofs.SysOps
import Indi.Proofs.SysPeer
import Indi.Proofs.SysB64

namespace Indi.SysP
open Indi Indi.Dev Indi.Cli Indi.Sys Indi.Spec.Sys Indi.Spec.Dev

attribute [local simp] s_inj

def DevsOK (devs : List Device) : Prop := (∀ d ∈ devs, DevOK d) ∧ (devs.map (·.name)).Nodup

/-- `VWf` of every mirror: no device entry holds a property name twice (of the device keys nothing is asked) -/
def PeersWf (peers : List Peer) : Prop := ∀ p ∈ peers, VWf p.mirror

def cvalFmt : CVal → Bool
  | .blob _ none => false
  | _ => true

/-- operations in scope whose BLOB arguments are proper BLOB values -/
def OpOK : Sys.Op → Prop
  | .driver _ op => devOpOk op = true
  | .write _ _ _ writes => ∀ w ∈ writes, cvalFmt w.2 = true
  | .handshake _ _ _ => True

theorem wb_set : ∀ (devs : List Device) (di : Nat) (d : Device) (ms : List Msg) (d' : Device),
    devs[di]? = some d → (∀ x ∈ devs, DevOK x) → DevBatch d ms d' → WB devs ms (devs.set di d')
  | [], _, _, _, _, h, _, _ => by cases h
  | d0 :: ds, 0, d, ms, d', h, hok, hb => by
    cases h
    simpa using WB.cons hb (WB.refl fun x hx => hok x (List.mem_cons_of_mem _ hx))
  | d0 :: ds, di + 1, d, ms, d', h, hok, hb =>
    (wb_set ds di d ms d' h (fun x hx => hok x (List.mem_cons_of_mem _ hx)) hb).skip (hok d0 List.mem_cons_self)

/-- `f d` is the driver as the peers saw it before: the driver itself or, at the start, the driver with every group disabled (`off`) -/
theorem toDevices_wb (f : Device → Device) (m : Msg)
    (hacc : ∀ d, DevOK d → accepts d m = true → DevBatch (f d) (fromClient d m).msgs (fromClient d m).dev)
    (hrej : ∀ d, DevOK d → accepts d m = false → DevBatch (f d) [] d) :
    ∀ devs : List Device, (∀ d ∈ devs, DevOK d) → WB (devs.map f) (toDevices devs m).2 (toDevices devs m).1
  | [], _ => WB.nil
  | d :: ds, hok => by
    have ih := toDevices_wb f m hacc hrej ds fun x hx => hok x (List.mem_cons_of_mem _ hx)
    have hd := hok d List.mem_cons_self
    simp only [toDevices, List.map_cons]
    cases ha : accepts d m
    · exact WB.cons (hrej d hd ha) ih
    · exact WB.cons (hacc d hd ha) ih

theorem opFormats_of_wire {m m' : Msg} (h : wire reg m = some m') : opFormats (.client m') = true := by
  unfold wire at h
  cases hx : fromXml reg (toXml m) with
  | error e => rw [hx] at h; cases h
  | ok m'' =>
    rw [hx] at h
    cases h
    exact DevB.opFormats_client.2 (SysB64.parsed_newBLOB_format _ _ hx)

theorem fromPeer_wb {devs : List Device} (hok : ∀ d ∈ devs, DevOK d) (p : Peer) (m : Msg)
    (hfmt : p.inproc = true → opFormats (.client m) = true) :
    WB devs (fromPeer reg devs p m).2 (fromPeer reg devs p m).1 := by
  have wb : ∀ m', opFormats (.client m') = true → WB devs (toDevices devs m').2 (toDevices devs m').1 :=
    fun m' h => by
      simpa using toDevices_wb id m' (fun d hd _ => fromClient_batch hd m' h) (fun d hd _ => DevBatch.refl hd) devs hok
  unfold fromPeer
  cases hip : p.inproc
  · simp only [Bool.false_eq_true, if_false]
    cases hw : wire reg m with
    | none => exact WB.refl hok
    | some m' => exact wb m' (opFormats_of_wire hw)
  · exact wb m (hfmt hip)

theorem submitMsg_formats {σ : Mirror} {dev prop : Str} {writes : List (Str × CVal)} {m : Msg}
    (h : submitMsg reg σ dev prop writes = some m) (hw : ∀ w ∈ writes, cvalFmt w.2 = true) :
    opFormats (.client m) = true := by
  obtain ⟨d, v, _, _, htag, hch⟩ := submitMsg_some h
  refine DevB.opFormats_client.2 fun ht p hp => ?_
  have hk : v.kind = .blob := by
    rw [ht] at htag
    cases hk : v.kind <;> rw [hk] at htag <;> simp [newTagOf] at htag
  rw [hch, Option.getD_some, List.mem_filterMap] at hp
  obtain ⟨ne, _, hne⟩ := hp
  cases hpend : pendingOf writes ne.1 with
  | none => rw [hpend] at hne; cases hne
  | some val =>
    obtain ⟨n, _, hwm⟩ := pendingOf_mem hpend
    have hval := hw _ hwm
    rw [hpend, hk] at hne
    cases val with
    | blob bs f =>
      cases hne
      cases f with
      | none => cases hval
      | some f => simp [DevB.fmtPresent, alookup]
    | _ => cases hne

theorem react_wb {w : World} {op : Sys.Op} (hok : ∀ d ∈ w.devs, DevOK d) (hop : OpOK op) :
    WB w.devs (react reg w op).2 (react reg w op).1 := by
  cases op with
  | driver di o =>
    simp only [react]
    cases hd : w.devs[di]? with
    | none => exact WB.refl hok
    | some d => exact wb_set w.devs di d _ _ hd hok (step_batch (hok d (List.mem_of_getElem? hd)) o hop)
  | write ci dev prop writes =>
    simp only [react]
    cases hp : w.peers[ci]? with
    | none => exact WB.refl hok
    | some p =>
      dsimp only
      cases hm : submitMsg reg p.mirror dev prop writes with
      | none => exact WB.refl hok
      | some m => exact fromPeer_wb hok p m fun _ => submitMsg_formats hm hop
  | handshake ci dev name =>
    simp only [react]
    cases hp : w.peers[ci]? with
    | none => exact WB.refl hok
    | some p => exact fromPeer_wb hok p _ fun _ => by simp [opFormats, getProperties]

theorem WB.devsOK {devs devs' : List Device} {ms : List Msg} (h : WB devs ms devs') (hok : DevsOK devs) : DevsOK devs' :=
  ⟨h.ok, by rw [h.names]; exact hok.2⟩

/-- peers that saw the drivers as `devs0` see them as they are once the batch has arrived, in any orders -/
theorem peers_deliver {devs0 devs' : List Device} {ms : List Msg} (hwb : WB devs0 ms devs')
    (hnd : (devs0.map (·.name)).Nodup) {peers peers' : List Peer} (hwf : PeersWf peers)
    (hs : ∀ p ∈ peers, peerSynced devs0 p = true) (hd : Delivered reg ms peers peers') :
    allSynced { devs := devs', peers := peers' } = true ∧ PeersWf peers' := by
  have each : ∀ p' ∈ peers', peerSynced devs' p' = true ∧ VWf p'.mirror := fun p' hp' => by
    obtain ⟨p, hz⟩ := forall₂_mem_right hd p' hp'
    obtain ⟨L, hL, rfl⟩ := (List.forall₂_iff_zip.1 hd).2 hz
    have hp := (List.of_mem_zip hz).1
    exact ⟨peer_deliver hwb hnd p (hwf p hp) (hs p hp) L hL, deliver_wf L p (hwf p hp)⟩
  exact ⟨List.all_eq_true.2 fun p' hp' => (each p' hp').1, fun p' hp' => (each p' hp').2⟩

/-- one step of the deployment, for any choice of arrival orders -/
theorem world_deliver {w : World} {op : Sys.Op} {devs' : List Device} {peers' : List Peer}
    (hok : DevsOK w.devs) (hwf : PeersWf w.peers) (hs : allSynced w = true) (hop : OpOK op)
    (hdevs : devs' = (react reg w op).1) (hpeers : Delivered reg (react reg w op).2 w.peers peers') :
    allSynced { devs := devs', peers := peers' } = true ∧ DevsOK devs' ∧ PeersWf peers' := by
  have hwb := react_wb hok.1 hop
  rw [← hdevs] at hwb
  obtain ⟨h1, h2⟩ := peers_deliver hwb hok.2 hwf (List.all_eq_true.1 hs) hpeers
  exact ⟨h1, hwb.devsOK hok, h2⟩

theorem world_next {w w' : World} {op : Sys.Op} (hok : DevsOK w.devs) (hwf : PeersWf w.peers)
    (hs : allSynced w = true) (hop : OpOK op) (hn : nextOk reg w op w' = true) :
    allSynced w' = true ∧ DevsOK w'.devs ∧ PeersWf w'.peers :=
  world_deliver hok hwf hs hop (nextOk_unpack hn).1 (nextOk_unpack hn).2

theorem world_step {w : World} {op : Sys.Op} (hok : DevsOK w.devs) (hwf : PeersWf w.peers)
    (hs : allSynced w = true) (hop : OpOK op) :
    allSynced (Sys.step reg w op) = true ∧ DevsOK (Sys.step reg w op).devs ∧ PeersWf (Sys.step reg w op).peers :=
  world_deliver hok hwf hs hop rfl (step_unpack reg w op).2

/-- the driver with every group disabled: what a peer that knows nothing is in sync with -/
def off (d : Device) : Device := { d with groups := d.groups.map fun g => { g with enabled := false } }

theorem getVec_off {d : Device} {gi vi : Nat} {g : Group} {v : Vec} :
    getVec (off d) gi vi = some (g, v) ↔ ∃ g0, getVec d gi vi = some (g0, v) ∧ g = { g0 with enabled := false } := by
  simp only [getVec_eq_some, off, List.getElem?_map, Option.map_eq_some_iff]
  constructor
  · rintro ⟨⟨g0, h1, rfl⟩, h2⟩; exact ⟨g0, ⟨h1, h2⟩, rfl⟩
  · rintro ⟨g0, ⟨h1, h2⟩, rfl⟩; exact ⟨⟨g0, h1, rfl⟩, h2⟩

theorem synced_off_nil (b : Bool) (d : Device) : synced b (off d) [] = true := by
  unfold synced
  simp only [olook, List.all_eq_true, Bool.not_eq_true']
  intro gv hgv
  obtain ⟨gi, vi, hg⟩ := mem_allVecs.1 hgv
  obtain ⟨g0, _, hg0⟩ := getVec_off.1 hg
  simp [vecEnabled, hg0]

/-- a request for all properties of all devices -/
def IsFullGet (m : Msg) : Prop :=
  m.tag = s "getProperties" ∧ attr m.fields "name" = none ∧ attr m.fields "device" = none

theorem fullGet_inproc : IsFullGet (getProperties none none) := by
  simp [IsFullGet, getProperties, attr, alookup]

/-- the handshake request, as a network client's peer reads it (the attributes in the class's order) -/
theorem fullGet_wire : ∃ m', wire reg (getProperties none none) = some m' ∧ IsFullGet m' := by
  refine ⟨{ tag := s "getProperties", fields := [(s "device", none), (s "version", some (s "1.7")), (s "name", none)],
            children := none }, by decide +kernel, ?_⟩
  simp [IsFullGet, attr, alookup]

theorem fullGet_batch_off {d : Device} (hok : DevOK d) {m : Msg} (hm : IsFullGet m) :
    DevBatch (off d) (fromClient d m).msgs (fromClient d m).dev := by
  have hwf' := step_wf d hok.1 (.client m)
  have hfc : fromClient d m = sendDefs d (dictVecs d) := by
    unfold fromClient
    simp only [hm.1, if_true, show (alookup (s "name") m.fields).getD none = none from hm.2.1]
  simp only [Dev.step, hfc] at hwf' ⊢
  have hnd : DevBResp.NamesNodup d := DevBResp.names_nodup (WF_namesDistinct hok.1)
  refine DevBatch.of_asum (d0 := off d) (L := dictVecs d) hok.allVG hwf' ⟨rfl, ?_, ?_⟩ (sendDefs_asum _ d hok.allVG)
  · intro gi vi hn
    cases h0 : getVec d gi vi with
    | none => rfl
    | some gv => rw [getVec_off.2 ⟨gv.1, h0, rfl⟩] at hn; cases hn
  · intro gi vi g0 v0 hg
    obtain ⟨g, hg0, _⟩ := getVec_off.1 hg
    refine ⟨g, v0, hg0, rfl, fun hnot => (hnot ?_).elim⟩
    rw [DevBResp.dictVecs_eq hnd]
    exact List.mem_map.2 ⟨((g, v0), (gi, vi)), DevBResp.mem_full.2 hg0, rfl⟩

theorem react_handshake {w : World} {ci : Nat} {p : Peer} (hp : w.peers[ci]? = some p) :
    ∃ m, IsFullGet m ∧ react reg w (.handshake ci none none) = toDevices w.devs m := by
  simp only [react, hp, fromPeer]
  cases hip : p.inproc
  · obtain ⟨m', hw, hm'⟩ := fullGet_wire
    exact ⟨m', hm', by simp [hw]⟩
  · exact ⟨_, fullGet_inproc, by simp⟩

theorem first_handshake {w : World} (hok : DevsOK w.devs) (hempty : ∀ p ∈ w.peers, p.mirror = []) {ci : Nat} {p0 : Peer}
    (hp : w.peers[ci]? = some p0) :
    allSynced (Sys.step reg w (.handshake ci none none)) = true ∧
    DevsOK (Sys.step reg w (.handshake ci none none)).devs ∧
    PeersWf (Sys.step reg w (.handshake ci none none)).peers := by
  obtain ⟨m, hm, hre⟩ := react_handshake hp
  obtain ⟨h1, h2⟩ := step_unpack reg w (.handshake ci none none)
  have hwb := toDevices_wb off m (fun d hd _ => fullGet_batch_off hd hm)
    (fun d _ ha => by simp [Sys.accepts, hm.2.2] at ha) w.devs hok.1
  rw [← hre, ← h1] at hwb
  have hnd : ((w.devs.map off).map (·.name)).Nodup := by rw [List.map_map]; exact hok.2
  obtain ⟨a, b⟩ := peers_deliver hwb hnd (fun p hp => by rw [hempty p hp]; exact fun _ h => nomatch h)
    (fun p hp => by
      simp only [peerSynced, hempty p hp, List.all_nil, Bool.and_true, List.all_eq_true, List.mem_map]
      rintro _ ⟨d, _, rfl⟩
      exact synced_off_nil _ _) h2
  exact ⟨a, by rw [h1]; exact (react_wb (op := .handshake ci none none) hok.1 trivial).devsOK hok, b⟩

/-- the `w0` of `Sys.start` -/
def world0 (devs : List Device) (kinds : List (Bool × Bool × Bool)) : World :=
  { devs := devs, peers := kinds.map fun k => { blobs := k.1, inproc := k.2.1, also := k.2.2, mirror := [] } }

theorem start_synced (devs : List Device) (kinds : List (Bool × Bool × Bool)) (hok : DevsOK devs) :
    allSynced (start reg devs kinds) = true ∧ DevsOK (start reg devs kinds).devs ∧
      PeersWf (start reg devs kinds).peers := by
  have keep : ∀ (l : List Nat) (w : World), (allSynced w = true ∧ DevsOK w.devs ∧ PeersWf w.peers) →
      (allSynced (l.foldl (fun w ci => Sys.step reg w (.handshake ci none none)) w) = true ∧
       DevsOK (l.foldl (fun w ci => Sys.step reg w (.handshake ci none none)) w).devs ∧
       PeersWf (l.foldl (fun w ci => Sys.step reg w (.handshake ci none none)) w).peers) := by
    intro l
    induction l with
    | nil => exact fun _ h => h
    | cons ci l ih => exact fun w h => ih _ (world_step h.2.1 h.2.2 h.1 trivial)
  show (let w := (List.range kinds.length).foldl (fun w ci => Sys.step reg w (.handshake ci none none)) (world0 devs kinds)
    allSynced w = true ∧ DevsOK w.devs ∧ PeersWf w.peers)
  cases kinds with
  | nil => exact ⟨rfl, hok, fun _ h => nomatch h⟩
  | cons k ks =>
    rw [List.length_cons, List.range_succ_eq_map, List.foldl_cons]
    exact keep _ _ (first_handshake (w := world0 devs (k :: ks)) hok
      (fun p hp => by obtain ⟨_, _, rfl⟩ := List.mem_map.1 hp; rfl) (p0 := _) rfl)

end Indi.SysP
