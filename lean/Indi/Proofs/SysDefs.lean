/-
  C01, vocabulary shared by the driver side and the client side: what a mirror can see of a vector (`elemView`,
  `ViewEq`, `ShapeEq`), the vectors the proofs speak about (`VG`), messages as drivers emit them (`Emitted`) and as
  descriptions of a vector (`IsDef`, `IsSetV`, `IsSetS`, `AMsg`, `AHead`), and a mirror's entry against a vector
  (`GoodV`, `Shaped`).
-/
import Indi.Proofs.SysMsg
import Indi.Proofs.DevB

namespace Indi.SysP
open Indi Indi.Dev Indi.Cli Indi.Sys Indi.Spec.Sys Indi.Spec.Dev

def enabledElems (v : Vec) : List Dev.Elem := v.elems.filter (·.enabled)

/-- what a mirror can see of an element -/
def elemView (e : Dev.Elem) : Str × Str × Str × Value := (e.d.name, e.d.label, e.d.format, readValue e)

/-- `elemShown` on an element view -/
def elemShownV (k : Kind) (ev : Str × Str × Str × Value) (c : CElem) : Bool :=
  c.name == some ev.1 && c.label == some ev.2.1 &&
  (match k with
   | .blob =>
     (match c.value, ev.2.2.2 with
      | .none, _ => true
      | .blob bs f, .blob bs' f' => bs == bs' && f == f'
      | .blob [] (some []), .none => true
      | _, _ => false)
   | _ =>
     (match c.value with
      | .none => wireText k ev.2.2.1 ev.2.2.2 == some none
      | .text t => wireText k ev.2.2.1 ev.2.2.2 == some (normVal (some t))
      | .blob _ _ => false))

theorem elemShown_eq (k : Kind) (e : Dev.Elem) (c : CElem) : elemShown k e c = elemShownV k (elemView e) c := rfl

/-- the mirror's element carries the right key, name and label -/
def ElemNamed (ev : Str × Str × Str × Value) (ce : Option Str × CElem) : Prop :=
  ce.1 = some ev.1 ∧ ce.2.name = some ev.1 ∧ ce.2.label = some ev.2.1

def ElemFull (k : Kind) (ev : Str × Str × Str × Value) (ce : Option Str × CElem) : Prop :=
  ce.1 = some ev.1 ∧ elemShownV k ev ce.2 = true

theorem ElemFull.named {k : Kind} {ev : Str × Str × Str × Value} {ce : Option Str × CElem}
    (h : ElemFull k ev ce) : ElemNamed ev ce := by
  obtain ⟨h1, h2⟩ := h
  simp only [elemShownV, Bool.and_eq_true, beq_iff_eq] at h2
  exact ⟨h1, h2.1.1, h2.1.2⟩

/-- the static part of what a mirror shows of a property -/
def vecShape (g : Group) (v : Vec) (c : CVec) : Prop :=
  c.kind = vkind v.kind ∧ c.name = some v.name ∧ c.group = some g.name ∧ c.label = some v.label ∧
  List.Forall₂ ElemNamed ((enabledElems v).map elemView) c.elems

/-- the two vectors look the same to every mirror -/
def ViewEq (g : Group) (v : Vec) (g' : Group) (v' : Vec) : Prop :=
  g'.name = g.name ∧ v'.name = v.name ∧ v'.label = v.label ∧ v'.kind = v.kind ∧ v'.state = v.state ∧
  (enabledElems v').map elemView = (enabledElems v).map elemView

/-- … up to state and values -/
def ShapeEq (g : Group) (v : Vec) (g' : Group) (v' : Vec) : Prop :=
  g'.name = g.name ∧ v'.name = v.name ∧ v'.label = v.label ∧ v'.kind = v.kind ∧
  (enabledElems v').map (fun e => (e.d.name, e.d.label)) = (enabledElems v).map (fun e => (e.d.name, e.d.label))

theorem ViewEq.name {g v g' v'} (h : ViewEq g v g' v') : v'.name = v.name := h.2.1
theorem ViewEq.kind {g v g' v'} (h : ViewEq g v g' v') : v'.kind = v.kind := h.2.2.2.1

theorem ShapeEq.name {g v g' v'} (h : ShapeEq g v g' v') : v'.name = v.name := h.2.1
theorem ShapeEq.kind {g v g' v'} (h : ShapeEq g v g' v') : v'.kind = v.kind := h.2.2.2.1

theorem ViewEq.refl (g : Group) (v : Vec) : ViewEq g v g v := ⟨rfl, rfl, rfl, rfl, rfl, rfl⟩

theorem ViewEq.symm {g v g' v'} (h : ViewEq g v g' v') : ViewEq g' v' g v :=
  ⟨h.1.symm, h.2.1.symm, h.2.2.1.symm, h.2.2.2.1.symm, h.2.2.2.2.1.symm, h.2.2.2.2.2.symm⟩

theorem ViewEq.trans {g v g' v' g'' v''} (h : ViewEq g v g' v') (h' : ViewEq g' v' g'' v'') : ViewEq g v g'' v'' :=
  ⟨h'.1.trans h.1, h'.2.1.trans h.2.1, h'.2.2.1.trans h.2.2.1, h'.2.2.2.1.trans h.2.2.2.1,
   h'.2.2.2.2.1.trans h.2.2.2.2.1, h'.2.2.2.2.2.trans h.2.2.2.2.2⟩

theorem ShapeEq.refl (g : Group) (v : Vec) : ShapeEq g v g v := ⟨rfl, rfl, rfl, rfl, rfl⟩

theorem ShapeEq.symm {g v g' v'} (h : ShapeEq g v g' v') : ShapeEq g' v' g v :=
  ⟨h.1.symm, h.2.1.symm, h.2.2.1.symm, h.2.2.2.1.symm, h.2.2.2.2.symm⟩

theorem ShapeEq.trans {g v g' v' g'' v''} (h : ShapeEq g v g' v') (h' : ShapeEq g' v' g'' v'') : ShapeEq g v g'' v'' :=
  ⟨h'.1.trans h.1, h'.2.1.trans h.2.1, h'.2.2.1.trans h.2.2.1, h'.2.2.2.1.trans h.2.2.2.1,
   h'.2.2.2.2.trans h.2.2.2.2⟩

theorem ViewEq.shape {g v g' v'} (h : ViewEq g v g' v') : ShapeEq g v g' v' := by
  obtain ⟨h1, h2, h3, h4, _, h6⟩ := h
  refine ⟨h1, h2, h3, h4, ?_⟩
  have := congrArg (List.map fun (x : Str × Str × Str × Value) => (x.1, x.2.1)) h6
  simpa [List.map_map, Function.comp_def, elemView] using this

def bytesOk : Value → Bool
  | .blob bs _ => bs.all fun b => decide (b < 256)
  | _ => true

def vecBytes (v : Vec) : Bool := v.elems.all fun e => bytesOk e.value

def vecNames (v : Vec) : Bool := decide ((enabledElems v).map (·.d.name)).Nodup

/-- what the proofs need of a vector -/
structure VG (v : Vec) : Prop where
  ok : vecOk v = true
  fmt : DevB.vecFmt v = true
  bytes : vecBytes v = true
  names : vecNames v = true

theorem VG.good {v : Vec} (h : VG v) : DevB.VecGood v := ⟨h.ok, h.fmt⟩

theorem VG.nodup {v : Vec} (h : VG v) : ((enabledElems v).map (·.d.name)).Nodup := by
  simpa [vecNames] using h.names

def AllVG (d : Device) : Prop := ∀ gi vi g v, getVec d gi vi = some (g, v) → VG v

theorem nodup_some_names {v : Vec} (h : ((enabledElems v).map (·.d.name)).Nodup) :
    ((enabledElems v).map fun e => some e.d.name).Nodup := by
  rw [List.Nodup, List.pairwise_map] at h ⊢
  exact h.imp fun hne e => hne (Option.some.inj e)

abbrev reg := Generated.registry

/-- a message as drivers emit them -/
def Emitted (m : Msg) : Prop :=
  wire reg m = some (C03.canon m) ∧ (m.tag = s "delProperty" → (attr m.fields "name").isSome = true)

/-- a definition of a vector that looks like `(g', v')` -/
def IsDef (dn : Str) (g' : Group) (v' : Vec) (m : Msg) : Prop :=
  ∃ g v, defMsg dn g v = .ok m ∧ vecEnabled g v = true ∧ VG v ∧ ViewEq g v g' v'

/-- an update of a vector that looks like `(g', v')` -/
def IsSetV (dn : Str) (g' : Group) (v' : Vec) (m : Msg) : Prop :=
  ∃ g v, setMsg dn g v = .ok (some m) ∧ VG v ∧ ViewEq g v g' v'

/-- an update of a vector of the shape of `(g', v')` -/
def IsSetS (dn : Str) (g' : Group) (v' : Vec) (m : Msg) : Prop :=
  ∃ g v, setMsg dn g v = .ok (some m) ∧ VG v ∧ ShapeEq g v g' v'

theorem IsSetV.toS {dn g' v' m} (h : IsSetV dn g' v' m) : IsSetS dn g' v' m := by
  obtain ⟨g, v, h1, h2, h3⟩ := h
  exact ⟨g, v, h1, h2, h3.shape⟩

/-- the mirror has an entry for the property, with its static part (`vecShape`): what an update needs to find -/
def Shaped (g' : Group) (v' : Vec) (oc : Option CVec) : Prop := ∃ c, oc = some c ∧ vecShape g' v' c

/-- the mirror has an entry for the property and it shows the property (`vecShown`, to a peer with BLOBs or without):
"good" of the mirror's entry, as `VG` is of the driver's vector -/
def GoodV (b : Bool) (g' : Group) (v' : Vec) (oc : Option CVec) : Prop := ∃ c, oc = some c ∧ vecShown b g' v' c = true

/-- `m` announces the vector `(g', v')`: a definition or an update showing it, or its deletion -/
def AMsg (dn : Str) (g' : Group) (v' : Vec) (m : Msg) : Prop :=
  (vecEnabled g' v' = true ∧ (IsDef dn g' v' m ∨ IsSetV dn g' v' m)) ∨
  (vecEnabled g' v' = false ∧ m = delMsg dn v'.name)

/-- … the definition or the deletion -/
def AHead (dn : Str) (g' : Group) (v' : Vec) (m : Msg) : Prop :=
  (vecEnabled g' v' = true ∧ IsDef dn g' v' m) ∨ (vecEnabled g' v' = false ∧ m = delMsg dn v'.name)

theorem AMsg.enabled_iff {dn g' v' m} (hen : vecEnabled g' v' = true) :
    AMsg dn g' v' m ↔ IsDef dn g' v' m ∨ IsSetV dn g' v' m := by
  simp [AMsg, hen]

theorem AMsg.disabled_iff {dn g' v' m} (hen : vecEnabled g' v' = false) : AMsg dn g' v' m ↔ m = delMsg dn v'.name := by
  simp [AMsg, hen]

theorem AHead.enabled_iff {dn g' v' m} (hen : vecEnabled g' v' = true) : AHead dn g' v' m ↔ IsDef dn g' v' m := by
  simp [AHead, hen]

theorem AHead.msg {dn g' v' m} (h : AHead dn g' v' m) : AMsg dn g' v' m := by
  rcases h with ⟨h1, h2⟩ | h
  · exact Or.inl ⟨h1, Or.inl h2⟩
  · exact Or.inr h

theorem IsDef.transport {dn g1 v1 g' v' m} (h : IsDef dn g1 v1 m) (hv : ViewEq g1 v1 g' v') : IsDef dn g' v' m := by
  obtain ⟨g, v, h1, h2, h3, h4⟩ := h
  exact ⟨g, v, h1, h2, h3, h4.trans hv⟩

theorem IsSetV.transport {dn g1 v1 g' v' m} (h : IsSetV dn g1 v1 m) (hv : ViewEq g1 v1 g' v') : IsSetV dn g' v' m := by
  obtain ⟨g, v, h1, h2, h3⟩ := h
  exact ⟨g, v, h1, h2, h3.trans hv⟩

theorem IsDef.key {dn g' v' m} (h : IsDef dn g' v' m) : key m = (some dn, some v'.name) := by
  obtain ⟨g, v, h1, _, _, h4⟩ := h
  rw [key_def h1, h4.name]

theorem IsSetS.key {dn g' v' m} (h : IsSetS dn g' v' m) : key m = (some dn, some v'.name) := by
  obtain ⟨g, v, h1, _, h4⟩ := h
  rw [key_set h1, h4.name]

theorem AMsg.key {dn g' v' m} (h : AMsg dn g' v' m) : key m = (some dn, some v'.name) := by
  rcases h with ⟨_, h | h⟩ | ⟨_, rfl⟩
  · exact h.key
  · exact h.toS.key
  · exact key_delMsg _ _

theorem AHead.isSetBlob {dn g' v' m} (h : AHead dn g' v' m) : isSetBlob m = false := by
  rcases h with ⟨_, g, v, h1, _⟩ | ⟨_, rfl⟩
  · exact isSetBlob_of_def h1
  · exact isSetBlob_delMsg _ _

end Indi.SysP
