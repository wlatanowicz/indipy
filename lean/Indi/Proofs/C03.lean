/-
  For C03: serialise-then-parse on every registered message kind.

  The proofs are generic in the class: `classW` is a decidable well-formedness condition on a
  class specification which every class of `Generated.registry` satisfies (`regW_generated`);
  `construct_canon` computes `construct c kw` for the keywords the parser derives from a
  serialised valid wire view, `construct_valid` shows that whatever `construct` accepts from a
  parser is valid.  `canon` is the exact form in which a valid message is read back: the parser strips element
  text, and number texts survive that (`C03Num.numberOk_strip`).

  `KwFor` is what `construct_canon` asks of the keywords, and what the parser's keywords for a part and for a
  message deliver (`kwFor_part`, `kwFor_msg`).  From these: `fromXml_toXml` (a message whose `canon` is valid is read
  back as its `canon`), `valid_canon` (the `canon` of a valid message is valid), hence `msg_canon` (a valid message is
  read back as its `canon`) and `readsBack_of_valid` (C03: `canon` and the message agree up to `norm`);
  `msg_parsed_valid` (whatever the parser accepts is valid); `fixed_point` (`canon` is idempotent unless a text is
  blank, so a second round trip changes nothing).
-/
import Indi.Proofs.NumText
import Indi.Proofs.Construct
import Indi.Generated.Registry

namespace Indi.C03Num
open Indi Indi.Num

theorem hdOk_rev (pre : Str) {s : Str} (hne : s ≠ []) (hs : hdOk s.reverse = true) :
    hdOk (pre ++ s).reverse = true := by
  rwa [List.reverse_append, hdOk_append _ (by simpa using hne)]

theorem body_spec {body i m} (h : Shape body i m) : body ≠ [] ∧ Trimmed body := by
  -- a body begins with a digit or the point and ends in a blank-free piece `s`:
  -- the only blanks are the separators inside
  have key : ∀ (d rest s : Str), Digs d → (d ≠ [] ∨ ∃ r, rest = '.' :: r) → s ≠ [] → NoSpace s →
      ∀ pre, d ++ rest = pre ++ s → d ++ rest ≠ [] ∧ Trimmed (d ++ rest) := by
    intro d rest s hd hne hs hns pre e
    have h1 : d ++ rest ≠ [] ∧ hdOk (d ++ rest) = true := by
      cases d with
      | nil => obtain ⟨r, rfl⟩ := hne.resolve_left (by simp); simp [hdOk, dot_facts.2.2]
      | cons a d => simp [hdOk, digit_noSpace (hd a (by simp))]
    exact ⟨h1.1, h1.2, e ▸ hdOk_rev pre hs hns.trimmed.2⟩
  cases h with
  | int _ hd hne => simpa using key _ [] _ hd (Or.inl hne) hne hd.noSpace [] (by simp)
  | dec d f hd hf hne =>
    exact key d _ ('.' :: f) hd (Or.inr ⟨_, rfl⟩) (by simp) (NoSpace_cons.mpr ⟨dot_facts.2.2, hf.noSpace⟩) d rfl
  | s2 d c a b t v hd hne hc ha hb ht =>
    exact key d _ (a :: b :: t) hd (Or.inl hne) (by simp) (ht.noSpace ha hb) (d ++ [c]) (by simp)
  | s3 d c a b c2 a2 b2 t v hd hne hc ha hb hc2 ha2 hb2 ht =>
    exact key d _ (a2 :: b2 :: t) hd (Or.inl hne) (by simp) (ht.noSpace ha2 hb2) (d ++ [c, a, b, c2]) (by simp)

theorem core_spec {u : Str} (h : numberCore u = true) : u ≠ [] ∧ Trimmed u := by
  obtain ⟨sg, body, i, m, hsg, rfl, hs⟩ := Shape.of_numberCore h
  obtain ⟨hne, h1, h2⟩ := body_spec hs
  have hr := hdOk_rev sg hne h2
  rcases hsg with rfl | rfl | rfl
  · exact ⟨hne, h1, h2⟩
  · exact ⟨by simp, by show (!pyIsSpace '-') = true; decide +kernel, hr⟩
  · exact ⟨by simp, by show (!pyIsSpace '+') = true; decide +kernel, hr⟩

theorem strip_of_edges {u : Str} (h : u ≠ [] ∧ Trimmed u) : pyStrip u = u := pyStrip_of_trimmed h.2

theorem nl_space : pyIsSpace '\n' = true := by decide

/-- `checks.number` accepts a text of the grammar, possibly followed by one newline (which `$` tolerates); `strip()`
leaves the text of the grammar -/
theorem numberCore_strip (t : Str) (h : numberOk t = true) : t ≠ [] ∧ numberCore (pyStrip t) = true := by
  have key : ∀ u, numberCore u = true → (t = u ∨ t = u ++ ['\n']) → t ≠ [] ∧ numberCore (pyStrip t) = true := by
    intro u hu ht
    have he := core_spec hu
    have : pyStrip t = u := by
      rcases ht with rfl | rfl
      · exact strip_of_edges he
      · exact pyStrip_pad (p := []) (fun _ hc => nomatch hc)
          (fun c hc => by rw [List.mem_singleton.1 hc]; exact nl_space) he.2
    rw [this]
    exact ⟨by rcases ht with rfl | rfl <;> simp [he.1], hu⟩
  rcases Bool.or_eq_true_iff.1 h with h | h
  · exact key t h (Or.inl rfl)
  · exact key _ h (dropLastNewline_cases t)

theorem numberOk_strip (t : Str) (h : numberOk t = true) :
    t ≠ [] ∧ pyStrip t ≠ [] ∧ numberOk (pyStrip t) = true := by
  obtain ⟨h1, h2⟩ := numberCore_strip t h
  exact ⟨h1, (core_spec h2).1, numberOk_of_core h2⟩

end Indi.C03Num

namespace Indi.C03
open Indi Indi.Spec.MsgValid Indi.Spec.Dev
open Indi.Num (pyStrip_idem)

open Indi.C03Num (numberOk_strip)

/-- the value under key `k` as it is read back: `value` is the element's text and comes back as `canonVal` says, an
XML attribute comes back as it is -/
def cv (k : Str) (v : Option Str) : Option Str := if k = s "value" then canonVal v else v

def canonFields (fs : List (Str × Option Str)) : List (Str × Option Str) :=
  fs.map fun kv => (kv.1, cv kv.1 kv.2)

def canonPart (p : Part) : Part := { p with fields := canonFields p.fields }

def canon (m : Msg) : Msg :=
  { m with fields := canonFields m.fields, children := m.children.map fun ps => ps.map canonPart }

/-- an allowed text value survives the parser's `strip` and is not dropped as empty text -/
def valOk : Option Str → Bool
  | some t => !t.isEmpty && pyStrip t == t
  | none => false

/-- what the proofs need of one attribute of a class: it is filled from the XML attribute of its own name or from
nothing; it is not `self`; the `children` guard belongs to the attribute `children` of a message class and to no other;
and, a trap, the last clause: `value` is the element's text, which the parser strips and, when it is empty, does not
pass at all (`canonVal`).  A part is constructed with the keyword `value` all the same (the `isPart` of `fieldOk`), so
its guard is free; in a message class `value` must be a `oneOf` of non-empty texts that `strip` leaves alone
(`valOk`).  With `any` or `number` there, a required `value` of `""` is valid and is not read back, and `fieldOk_cv`
fails. -/
def fieldW (isPart : Bool) (f : FieldSpec) : Bool :=
  (f.source == some f.name || f.source == none) &&
  f.name != s "self" &&
  (match f.guard with
   | .children _ => f.name == s "children" && !isPart && f.source == some (s "children")
   | _ => f.name != s "children") &&
  (f.name != s "value" ||
     match f.guard with
     | .oneOf vals => vals.all valOk
     | .children _ => false
     | _ => isPart)

/-- the condition on a class under which the proofs go through (`fieldW` for each attribute; distinct names; a
required keyword is the source of an attribute and is not `children`), checked on `Generated.registry` by evaluation
(`regW_generated`) -/
def classW (isPart : Bool) (c : ClassSpec) : Bool :=
  decide (c.fields.map (·.name)).Nodup && c.fields.all (fieldW isPart) &&
  c.required.all (fun r => r != s "children" && c.fields.any (fun f => f.source == some r))

theorem alookup_of_mem {α : Type} {l : List (Str × α)} {k : Str} {v : α}
    (hn : (l.map Prod.fst).Nodup) (h : (k, v) ∈ l) : alookup k l = some v := Indi.alookup_of_mem hn h

theorem mem_of_alookup {α : Type} {l : List (Str × α)} {k : Str} {v : α}
    (h : alookup k l = some v) : (k, v) ∈ l := Indi.mem_of_alookup h

theorem presentAttrs_keys (fs : List (Str × Option Str)) :
    ((presentAttrs fs).map Prod.fst).Sublist (fs.map Prod.fst) := Indi.presentAttrs_keys fs

theorem presentAttrs_special (fs : List (Str × Option Str)) (k : Str)
    (hk : k = s "value" ∨ k = s "children") : alookup k (presentAttrs fs) = none := by
  cases h : alookup k (presentAttrs fs) with
  | none => rfl
  | some v =>
    obtain ⟨h1, h2, _⟩ := mem_presentAttrs.1 (mem_of_alookup h)
    exact absurd hk (not_or.2 ⟨h1, h2⟩)

theorem alookup_presentAttrs (fs : List (Str × Option Str)) (hn : (fs.map Prod.fst).Nodup) (k : Str)
    (h1 : k ≠ s "value") (h2 : k ≠ s "children") :
    alookup k (presentAttrs fs) = (alookup k fs).getD none := by
  apply Option.ext
  intro v
  rw [alookup_eq_some (hn.sublist (presentAttrs_keys fs)), mem_presentAttrs, getD_alookup_eq_some hn]
  exact ⟨fun h => h.2.2, fun h => ⟨h1, h2, h⟩⟩

theorem canonFields_keys (fs : List (Str × Option Str)) : (canonFields fs).map Prod.fst = fs.map Prod.fst := by
  simp only [canonFields, List.map_map]; rfl

theorem alookup_canonFields (k : Str) (fs : List (Str × Option Str)) :
    alookup k (canonFields fs) = (alookup k fs).map (cv k) := alookup_map cv k fs

theorem presentAttrs_canonFields (fs : List (Str × Option Str)) :
    presentAttrs (canonFields fs) = presentAttrs fs := by
  induction fs with
  | nil => rfl
  | cons kv rest ih =>
    obtain ⟨k, v⟩ := kv
    simp only [canonFields, List.map_cons, presentAttrs, List.filterMap_cons] at ih ⊢
    rw [ih]
    by_cases hk : k = s "value"
    · simp [hk]
    · simp [cv, hk]

theorem valueOf_canonFields (fs : List (Str × Option Str)) :
    valueOf (canonFields fs) = canonVal (valueOf fs) := by
  rw [valueOf_eq, valueOf_eq, alookup_canonFields]
  cases alookup (s "value") fs with
  | none => rfl
  | some o => simp [cv]

theorem partToXml_canonPart (p : Part) :
    partToXml (canonPart p) = { partToXml p with text := (canonVal (valueOf p.fields)).getD [] } := by
  simp only [partToXml, canonPart, presentAttrs_canonFields, valueOf_canonFields]

theorem zip_map_all {α β : Type} (h : α → β) (P : α × β → Bool) :
    ∀ L : List α, (L.zip (L.map h)).all P = L.all fun a => P (a, h a)
  | [] => rfl
  | a :: L => by simp only [List.map_cons, List.zip_cons_cons, List.all_cons, zip_map_all h P L]

theorem fieldsOk_iff {isPart : Bool} {c : ClassSpec} (hn : ((scalarSpecs c).map (·.name)).Nodup)
    {fields : List (Str × Option Str)} :
    fieldsOk isPart c fields = true ↔
      ∃ g : FieldSpec → Option Str, fields = (scalarSpecs c).map (fun f => (f.name, g f)) ∧
        ∀ f ∈ scalarSpecs c, fieldOk isPart c f (g f) = true := by
  simp only [fieldsOk, Bool.and_eq_true, beq_iff_eq]
  constructor
  · rintro ⟨hk, hz⟩
    have e := eq_map_keys (hk ▸ hn) none
    rw [hk, List.map_map] at e
    refine ⟨_, e, ?_⟩
    rwa [e, zip_map_all, List.all_eq_true] at hz
  · rintro ⟨g, rfl, h⟩
    exact ⟨by rw [List.map_map]; rfl, by rwa [zip_map_all, List.all_eq_true]⟩

theorem validPart_iff {reg : Registry} {p : Part} : validPart reg p = true ↔
    ∃ c, findClass p.tag reg.parts = some c ∧ c.supported = true ∧ fieldsOk true c p.fields = true := by
  unfold validPart
  split <;> simp [*]

theorem valid_iff {reg : Registry} {m : Msg} : valid reg m = true ↔
    ∃ c, findClass m.tag reg.messages = some c ∧ c.supported = true ∧ fieldsOk false c m.fields = true ∧
      m.children.isSome = (childTagsOf c).isSome ∧
      ∀ p ∈ m.children.getD [], validPart reg p = true ∧ ∀ tags ∈ childTagsOf c, tags.contains p.tag = true := by
  unfold valid
  split
  · simp [*]
  · rename_i c hc
    simp only [hc, Option.some.injEq, exists_eq_left']
    cases childTagsOf c <;> cases m.children <;> simp [and_assoc, and_comm]

theorem childTagsOf_mem {c : ClassSpec} (hn : (c.fields.map (·.name)).Nodup) {f : FieldSpec} (hf : f ∈ c.fields)
    (hname : f.name = s "children") :
    childTagsOf c = match f.guard with | .children tags => some tags | _ => none := by
  unfold childTagsOf
  rw [← hname, find?_key (·.name) hn hf]
  obtain ⟨n, so, g⟩ := f
  cases g <;> rfl

theorem childTagsOf_none {c : ClassSpec} (h : ∀ f ∈ c.fields, f.name ≠ s "children") : childTagsOf c = none := by
  rw [childTagsOf, List.find?_eq_none.2 (fun x hx => by simpa using h x hx)]

theorem classW_unpack {isPart : Bool} {c : ClassSpec} (h : classW isPart c = true) :
    (c.fields.map (·.name)).Nodup ∧ (∀ f ∈ c.fields, fieldW isPart f = true) ∧
    (∀ r ∈ c.required, r ≠ s "children" ∧ ∃ f ∈ c.fields, f.source = some r) := by
  simp only [classW, Bool.and_eq_true, decide_eq_true_eq, List.all_eq_true] at h
  refine ⟨h.1.1, h.1.2, fun r hr => ?_⟩
  simpa only [bne_iff_ne, ne_eq, List.any_eq_true, beq_iff_eq] using h.2 r hr

theorem fieldW_unpack {isPart : Bool} {f : FieldSpec} (h : fieldW isPart f = true) :
    (f.source = some f.name ∨ f.source = none) ∧ f.name ≠ s "self" ∧
    (match f.guard with
     | .children _ => f.name = s "children" ∧ isPart = false ∧ f.source = some (s "children")
     | _ => f.name ≠ s "children") ∧
    (f.name = s "value" →
      match f.guard with
      | .oneOf vals => ∀ v ∈ vals, valOk v = true
      | .children _ => False
      | _ => isPart = true) := by
  simp only [fieldW, Bool.and_eq_true, Bool.or_eq_true, beq_iff_eq, bne_iff_ne, ne_eq] at h
  obtain ⟨⟨⟨h1, h2⟩, h3⟩, h4⟩ := h
  refine ⟨h1, h2, ?_, ?_⟩
  · cases hg : f.guard <;> simp only [hg] at h3 ⊢ <;> simp_all
  · intro hv
    rcases h4 with h4 | h4
    · exact absurd hv h4
    · cases hg : f.guard <;> simp only [hg] at h4 ⊢ <;> simp_all

theorem fieldW_scalar {isPart : Bool} {f : FieldSpec} (h : fieldW isPart f = true) (hne : f.name ≠ s "children") :
    ∀ tags, f.guard ≠ .children tags := fun tags hg => by
  have := (fieldW_unpack h).2.2.1
  rw [hg] at this
  exact hne this.1

theorem classW_children {isPart : Bool} {c : ClassSpec} (hW : classW isPart c = true) {f : FieldSpec}
    (hf : f ∈ c.fields) (hname : f.name = s "children") :
    ∃ tags, f.guard = .children tags ∧ f.source = some (s "children") ∧ isPart = false ∧
      childTagsOf c = some tags := by
  obtain ⟨hnd, hfw, _⟩ := classW_unpack hW
  have hgd := (fieldW_unpack (hfw f hf)).2.2.1
  have hct := childTagsOf_mem hnd hf hname
  cases hg : f.guard with
  | children tags => rw [hg] at hgd hct; exact ⟨tags, rfl, hgd.2.2, hgd.2.1, hct⟩
  | any | oneOf _ | number => rw [hg] at hgd; exact absurd hname hgd

theorem fieldsOk_nodup {isPart : Bool} {c : ClassSpec} (hW : classW isPart c = true)
    {fields : List (Str × Option Str)} (hf : fieldsOk isPart c fields = true) : (fields.map Prod.fst).Nodup := by
  have hsn := scalarSpecs_nodup (classW_unpack hW).1
  obtain ⟨g, rfl, _⟩ := (fieldsOk_iff hsn).1 hf
  rwa [List.map_map]

/-- what a keyword list derived from serialised wire fields must deliver -/
structure KwFor (isPart : Bool) (fields : List (Str × Option Str)) (ps : List Part) (kw : List (Str × PyVal)) : Prop where
  attr : ∀ k, k ≠ s "value" → k ≠ s "children" → alookup k kw = ((alookup k fields).getD none).map PyVal.str
  value : (alookup (s "value") kw).getD .none = toPy (canonVal (valueOf fields))
  hasValue : (isPart = true ∨ ∃ t, valueOf fields = some t ∧ t ≠ []) → ahas (s "value") kw = true
  children : (alookup (s "children") kw).getD .none = if ps.isEmpty then .none else .parts ps

theorem KwFor.get {isPart : Bool} {fields : List (Str × Option Str)} {ps : List Part} {kw : List (Str × PyVal)}
    (h : KwFor isPart fields ps kw) {k : Str} (hk : k ≠ s "children") :
    kwGet kw (some k) = toPy ((alookup k (canonFields fields)).getD none) := by
  rw [alookup_canonFields, kwGet]
  by_cases hv : k = s "value"
  · subst hv
    rw [h.value, valueOf_eq]
    cases alookup (s "value") fields <;> simp [cv, canonVal]
  · rw [h.attr k hv hk]
    cases alookup k fields with
    | none => rfl
    | some o => cases o <;> simp [cv, hv, toPy]

/-- The parser strips element text before the constructor sees it, so what has to pass the guards is the
canonical form of the fields, not the fields themselves. -/
theorem construct_canon {isPart : Bool} {c : ClassSpec} (hW : classW isPart c = true) (hs : c.supported = true)
    {fields : List (Str × Option Str)} (hf : fieldsOk isPart c (canonFields fields) = true) {ps : List Part}
    (hps : ∀ tags, childTagsOf c = some tags → ps.all (fun p => tags.contains p.tag) = true)
    {kw : List (Str × PyVal)} (hkw : KwFor isPart fields ps kw) :
    construct c kw =
      .ok { tag := c.tag, fields := canonFields fields, children := (childTagsOf c).map fun _ => ps } := by
  obtain ⟨hnd, hfw, hreq⟩ := classW_unpack hW
  have hsn := scalarSpecs_nodup hnd
  obtain ⟨g, hF, hok⟩ := (fieldsOk_iff hsn).1 hf
  have hget : ∀ f ∈ scalarSpecs c, kwGet kw (some f.name) = toPy (g f) := fun f hfm => by
    rw [hkw.get (mem_scalarSpecs.1 hfm).2, hF, alookup_map_key, find?_key (·.name) hsn hfm]; rfl
  rw [hF]
  refine construct_of hs ?_ ?_ (G := fun f => if f.name = s "children" then .parts ps else toPy (g f)) ?_
    (fun f _ hc => if_neg hc) ?_
  · -- `self` is no attribute, so no keyword
    have h3 : alookup (s "self") fields = none := by
      apply alookup_eq_none.2
      rw [← canonFields_keys, hF, List.map_map]
      intro hm
      obtain ⟨f, hfm, hname⟩ := List.mem_map.1 hm
      exact (fieldW_unpack (hfw f (mem_scalarSpecs.1 hfm).1)).2.1 hname
    simp [ahas, hkw.attr _ (by decide : s "self" ≠ s "value") (by decide : s "self" ≠ s "children"), h3]
  · -- a required keyword is passed: its attribute is present, or it is a part's `value`
    intro r hr
    obtain ⟨hrc, f, hfm, hsrc⟩ := hreq r hr
    have hname : f.name = r := by
      rcases (fieldW_unpack (hfw f hfm)).1 with h | h <;> rw [h] at hsrc
      · exact Option.some.inj hsrc
      · cases hsrc
    subst hname
    have hfs := mem_scalarSpecs.2 ⟨hfm, hrc⟩
    have hso := hok f hfs
    simp only [fieldOk, hsrc, List.contains_iff_mem.2 hr, Bool.not_true, Bool.false_or, Bool.or_eq_true,
      Bool.and_eq_true, decide_eq_true_eq] at hso
    rcases hso.2 with hso | hso
    · obtain ⟨t, ht⟩ := Option.isSome_iff_exists.1 hso
      rw [ahas, alookup_of_kwGet (hget f hfs) (by rw [ht]; exact fun e => nomatch e)]; rfl
    · exact hso.2 ▸ hkw.hasValue (Or.inl hso.1)
  · intro f hfm
    by_cases hch : f.name = s "children"
    · obtain ⟨tags, hg, hsrc, _, hct⟩ := classW_children hW hfm hch
      rw [if_pos hch, hg, hsrc]
      simp only [kwGet, hkw.children]
      cases ps with
      | nil => rfl
      | cons p ps => simp only [List.isEmpty_cons, Bool.false_eq_true, if_false, checkGuard, hps tags hct, if_true]
    · have hfs := mem_scalarSpecs.2 ⟨hfm, hch⟩
      have hok := hok f hfs
      simp only [fieldOk, Bool.and_eq_true] at hok
      -- the keyword delivers the canonical value, which passes the guard by `hok`
      have hkv : kwGet kw f.source = toPy (g f) := by
        rcases (fieldW_unpack (hfw f hfm)).1 with hsrc | hsrc
        · rw [hsrc]; exact hget f hfs
        · have := hok.2
          simp only [hsrc, Option.isNone_iff_eq_none] at this
          rw [hsrc, this]; rfl
      rw [if_neg hch, hkv]
      exact checkGuard_of_guardOk hok.1 (fieldW_scalar (hfw f hfm) hch)
  · by_cases hex : ∃ f ∈ c.fields, f.name = s "children"
    · obtain ⟨f, hf, hname⟩ := hex
      obtain ⟨tags, _, _, _, hct⟩ := classW_children hW hf hname
      rw [hct]
      exact childrenView_of_mem hnd hf hname (if_pos hname)
    · have hno : ∀ f ∈ c.fields, f.name ≠ s "children" := fun f hf e => hex ⟨f, hf, e⟩
      rw [childTagsOf_none hno]
      exact childrenView_of_none hno

def regW (reg : Registry) : Bool := reg.messages.all (classW false) && reg.parts.all (classW true)

theorem regW_generated : regW Generated.registry = true := by decide +kernel

theorem regW_msg {reg : Registry} (h : regW reg = true) {t : Str} {c : ClassSpec}
    (hc : findClass t reg.messages = some c) : classW false c = true := by
  simp only [regW, Bool.and_eq_true, List.all_eq_true] at h
  exact h.1 c (findClass_spec hc).1

theorem regW_part {reg : Registry} (h : regW reg = true) {t : Str} {c : ClassSpec}
    (hc : findClass t reg.parts = some c) : classW true c = true := by
  simp only [regW, Bool.and_eq_true, List.all_eq_true] at h
  exact h.2 c (findClass_spec hc).1

theorem part_no_children {c : ClassSpec} (hW : classW true c = true) : childTagsOf c = none :=
  childTagsOf_none fun _ hf hname => nomatch (classW_children hW hf hname).choose_spec.2.2.1

theorem canonVal_text (fields : List (Str × Option Str)) :
    (if ((valueOf fields).getD []).isEmpty then PyVal.none else PyVal.str (pyStrip ((valueOf fields).getD []))) =
      toPy (canonVal (valueOf fields)) := by
  cases valueOf fields with
  | none => rfl
  | some t =>
    simp only [Option.getD_some, canonVal]
    split <;> rfl

theorem kwFor_part (p : Part) (hn : (p.fields.map Prod.fst).Nodup) :
    KwFor true p.fields [] (partKw (partToXml p)) := by
  have hl : ∀ k, alookup k (partKw (partToXml p)) =
      if s "value" = k then some (toPy (canonVal (valueOf p.fields)))
      else (alookup k (presentAttrs p.fields)).map .str := fun k => by
    rw [alookup_partKw, ← canonVal_text]; rfl
  refine ⟨fun k h1 h2 => ?_, ?_, fun _ => ?_, ?_⟩
  · rw [hl, if_neg (Ne.symm h1), alookup_presentAttrs p.fields hn k h1 h2]
  · rw [hl, if_pos rfl]; rfl
  · rw [ahas, hl, if_pos rfl]; rfl
  · rw [hl, if_neg value_ne_children, presentAttrs_special p.fields _ (Or.inr rfl)]; rfl

theorem kwFor_msg (m : Msg) (hn : (m.fields.map Prod.fst).Nodup) (ps : List Part) :
    KwFor false m.fields ps (msgKw (toXml m) ps) := by
  have hl : ∀ k, alookup k (msgKw (toXml m) ps) =
      if (valueOf m.fields).getD [] ≠ [] ∧ s "value" = k then some (.str (pyStrip ((valueOf m.fields).getD [])))
      else if ps ≠ [] ∧ s "children" = k then some (.parts ps)
      else (alookup k (presentAttrs m.fields)).map .str := fun k => by
    rw [alookup_msgKw, ← alookup_sortByKey k _ (hn.sublist (presentAttrs_keys m.fields))]; rfl
  refine ⟨fun k h1 h2 => ?_, ?_, ?_, ?_⟩
  · rw [hl, if_neg (fun h => h1 h.2.symm), if_neg (fun h => h2 h.2.symm), alookup_presentAttrs m.fields hn k h1 h2]
  · rw [hl, ← canonVal_text]
    by_cases ht : (valueOf m.fields).getD [] = []
    · simp [ht, value_ne_children.symm, presentAttrs_special m.fields _ (Or.inl rfl)]
    · simp [ht]
  · rintro (h | ⟨t, htv, hne⟩)
    · cases h
    · rw [ahas, hl, if_pos ⟨by rwa [htv], rfl⟩]; rfl
  · rw [hl, if_neg (fun h => value_ne_children h.2)]
    cases ps <;> simp [presentAttrs_special m.fields _ (Or.inr rfl)]

theorem partFromXml_toXml {reg : Registry} (hreg : regW reg = true) {p : Part}
    (h : validPart reg (canonPart p) = true) : partFromXml reg (partToXml p) = .ok (canonPart p) := by
  obtain ⟨c, hc, hs, hf⟩ := validPart_iff.1 h
  have hW := regW_part hreg hc
  have hn : (p.fields.map Prod.fst).Nodup := canonFields_keys p.fields ▸ fieldsOk_nodup hW hf
  unfold partFromXml constructPart
  rw [show findClass (partToXml p).tag reg.parts = some c from hc]
  show (match construct c (partKw (partToXml p)) with | .error e => _ | .ok m => _) = _
  rw [construct_canon hW hs hf (fun _ _ => rfl) (kwFor_part p hn), part_no_children hW, (findClass_spec hc).2]
  rfl

theorem partsFromXml_toXml {reg : Registry} (hreg : regW reg = true) : ∀ {ps : List Part},
    (∀ p ∈ ps, validPart reg (canonPart p) = true) → partsFromXml reg (ps.map partToXml) = .ok (ps.map canonPart)
  | [], _ => rfl
  | p :: ps, h => by
    have h1 := partFromXml_toXml hreg (h p (List.mem_cons_self ..))
    have h2 := partsFromXml_toXml hreg (ps := ps) (fun q hq => h q (List.mem_cons_of_mem _ hq))
    simp only [List.map_cons, partsFromXml, h1, h2]

theorem canon_children (m : Msg) : (canon m).children.getD [] = (m.children.getD []).map canonPart := by
  cases h : m.children <;> simp [canon, h]

/-- The hypothesis is weaker than validity of the message itself: a number text with blanks around it is not valid;
stripped, as the parser passes it on, it is. -/
theorem fromXml_toXml {reg : Registry} (hreg : regW reg = true) {m : Msg} (h : valid reg (canon m) = true) :
    fromXml reg (toXml m) = .ok (canon m) := by
  obtain ⟨c, hc, hs, hf, hsome, hch⟩ := valid_iff.1 h
  have hW := regW_msg hreg hc
  have hn : (m.fields.map Prod.fst).Nodup := canonFields_keys m.fields ▸ fieldsOk_nodup hW hf
  have hps : partsFromXml reg (toXml m).children = .ok ((canon m).children.getD []) := by
    rw [canon_children] at hch ⊢
    exact partsFromXml_toXml hreg fun p hp => (hch _ (List.mem_map_of_mem hp)).1
  unfold fromXml
  rw [show findClass (toXml m).tag reg.messages = some c from hc, hps]
  refine (construct_canon hW hs hf (fun tags ht => List.all_eq_true.2 fun q hq => (hch q hq).2 tags ht)
    (kwFor_msg m hn _)).trans ?_
  -- the class has a `children` attribute exactly when the message has children
  have : (childTagsOf c).map (fun _ => (canon m).children.getD []) = (canon m).children := by
    revert hsome; cases (canon m).children <;> cases childTagsOf c <;> simp
  rw [(findClass_spec hc).2, this]
  rfl

theorem fieldOk_cv {isPart : Bool} {c : ClassSpec} {f : FieldSpec} (hW : fieldW isPart f = true) {v : Option Str}
    (h : fieldOk isPart c f v = true) : fieldOk isPart c f (cv f.name v) = true := by
  unfold cv
  split
  · rename_i hvl
    obtain ⟨hsrc, _, _, hval⟩ := fieldW_unpack hW
    have hval := hval hvl
    simp only [fieldOk, Bool.and_eq_true] at h ⊢
    obtain ⟨hgo, hso⟩ := h
    -- a part always gets its `value` keyword
    have hpart : isPart = true → (match f.source with
        | some p => !c.required.contains p || (canonVal v).isSome || (isPart && p = s "value")
        | none => (canonVal v).isNone) = true := fun hp => by
      rcases hsrc with hsrc | hsrc <;> rw [hsrc] at hso ⊢
      · simp [hp, hvl]
      · simp only [Option.isNone_iff_eq_none] at hso; subst hso; rfl
    cases hg : f.guard with
    | children tags => simp only [hg] at hval
    | any => simp only [hg] at hval; exact ⟨rfl, hpart hval⟩
    | oneOf vals =>
      simp only [hg] at hval hgo
      have hc : canonVal v = v := by
        have := hval v (List.contains_iff_mem.1 hgo)
        cases v with
        | none => rfl
        | some t =>
          simp only [valOk, Bool.and_eq_true, Bool.not_eq_true', beq_iff_eq] at this
          simp [canonVal, this.1, this.2]
      rw [hc]; exact ⟨hgo, hso⟩
    | number =>
      simp only [hg] at hval hgo
      refine ⟨?_, hpart hval⟩
      cases v with
      | none => rfl
      | some t =>
        obtain ⟨h1, _, h3⟩ := numberOk_strip t hgo
        have : t.isEmpty = false := by cases t <;> simp_all
        simp only [canonVal, this, Bool.false_eq_true, if_false, guardOk, h3]
  · exact h

theorem fieldsOk_canon {isPart : Bool} {c : ClassSpec} (hW : classW isPart c = true)
    {fields : List (Str × Option Str)} (h : fieldsOk isPart c fields = true) :
    fieldsOk isPart c (canonFields fields) = true := by
  obtain ⟨hnd, hfw, _⟩ := classW_unpack hW
  have hsn := scalarSpecs_nodup hnd
  obtain ⟨g, rfl, hok⟩ := (fieldsOk_iff hsn).1 h
  exact (fieldsOk_iff hsn).2 ⟨fun f => cv f.name (g f), by simp only [canonFields, List.map_map]; rfl,
    fun f hf => fieldOk_cv (hfw f (mem_scalarSpecs.1 hf).1) (hok f hf)⟩

theorem validPart_canon {reg : Registry} (hreg : regW reg = true) {p : Part} (h : validPart reg p = true) :
    validPart reg (canonPart p) = true := by
  obtain ⟨c, hc, hs, hf⟩ := validPart_iff.1 h
  exact validPart_iff.2 ⟨c, hc, hs, fieldsOk_canon (regW_part hreg hc) hf⟩

theorem valid_canon {reg : Registry} (hreg : regW reg = true) {m : Msg} (h : valid reg m = true) :
    valid reg (canon m) = true := by
  obtain ⟨c, hc, hs, hf, hsome, hch⟩ := valid_iff.1 h
  refine valid_iff.2 ⟨c, hc, hs, fieldsOk_canon (regW_msg hreg hc) hf, by rw [← hsome]; simp [canon], fun q hq => ?_⟩
  rw [canon_children] at hq
  obtain ⟨p, hp, rfl⟩ := List.mem_map.1 hq
  exact ⟨validPart_canon hreg (hch p hp).1, (hch p hp).2⟩

theorem msg_canon {reg : Registry} (hreg : regW reg = true) {m : Msg} (h : valid reg m = true) :
    fromXml reg (toXml m) = .ok (canon m) :=
  fromXml_toXml hreg (valid_canon hreg h)

theorem normVal_canonVal (v : Option Str) : normVal (canonVal v) = normVal v := by
  cases v with
  | none => rfl
  | some t =>
    cases t with
    | nil => rfl
    | cons c cs => simp [canonVal, normVal, pyStrip_idem]

theorem normFields_canon (fs : List (Str × Option Str)) : normFields (canonFields fs) = normFields fs := by
  simp only [normFields, canonFields, List.map_map]
  apply List.map_congr_left
  intro kv _
  obtain ⟨k, v⟩ := kv
  simp only [Function.comp, cv]
  split <;> simp [normVal_canonVal, *]

theorem normPart_canon (p : Part) : normPart (canonPart p) = normPart p := by
  simp only [normPart, canonPart, normFields_canon]

theorem norm_canon (m : Msg) : norm (canon m) = norm m := by
  obtain ⟨tag, fields, ch⟩ := m
  simp only [norm, canon, normFields_canon, Option.map_map]
  congr 1
  cases ch with
  | none => rfl
  | some ps =>
    simp only [Option.map_some, Function.comp, List.map_map, Option.some.injEq]
    apply List.map_congr_left
    intro p _
    exact normPart_canon p

theorem readsBack_of_valid {reg : Registry} (hreg : regW reg = true) {m : Msg} (h : valid reg m = true) :
    readsBack reg m = true := by
  simp only [readsBack, msg_canon hreg h, norm_canon, beq_self_eq_true]

theorem construct_valid {isPart : Bool} {c : ClassSpec} (hW : classW isPart c = true) {kw : List (Str × PyVal)}
    {ps : List Part} (hkw : KwFrom isPart ps kw) {m : Msg} (h : construct c kw = .ok m) :
    c.supported = true ∧ m.tag = c.tag ∧ fieldsOk isPart c m.fields = true ∧
    m.children.isSome = (childTagsOf c).isSome ∧
    ∀ p ∈ m.children.getD [], p ∈ ps ∧ ∀ tags ∈ childTagsOf c, tags.contains p.tag = true := by
  obtain ⟨hnd, hfw, hreq⟩ := classW_unpack hW
  obtain ⟨hsup, hrq, htag, hck, hnp, hfields, _⟩ := construct_inv h
  have hview := children_view h hnd hkw
  refine ⟨hsup, htag, (fieldsOk_iff (scalarSpecs_nodup hnd)).2 ⟨_, hfields, fun f hf => ?_⟩, ?_⟩
  · -- a scalar attribute: what was stored is the keyword itself, a text or `None`, and passes the guard
    obtain ⟨hfm, hne⟩ := mem_scalarSpecs.1 hf
    obtain ⟨hx, hgo⟩ := checkGuard_scalar (fieldW_scalar (hfw f hfm) hne) (hnp f hf ▸ hck f hfm)
    simp only [fieldOk, Bool.and_eq_true]
    refine ⟨hgo, ?_⟩
    rcases (fieldW_unpack (hfw f hfm)).1 with hsrc | hsrc
    · rw [hsrc] at hx ⊢
      simp only [Bool.or_eq_true, Bool.not_eq_true', Bool.and_eq_true, decide_eq_true_eq]
      by_cases hr : c.required.contains f.name = true
      · cases ho : toOpt (stored kw f) with
        | some t => exact Or.inl (Or.inr rfl)
        | none => exact Or.inr (hkw.none (hrq f.name (List.contains_iff_mem.1 hr)) (by rw [hx, ho]; rfl))
      · exact Or.inl (Or.inl (by simpa using hr))
    · rw [hsrc] at hx ⊢
      simp only [Option.isNone_iff_eq_none]
      exact (toPy_inj (a := none) hx).symm
  · by_cases hex : ∃ f ∈ c.fields, f.name = s "children"
    · obtain ⟨f, hf, hname⟩ := hex
      obtain ⟨tags, hg, _, _, hct⟩ := classW_children hW hf hname
      obtain ⟨qs, hm, hall⟩ := hview.1 f hf hname tags hg
      rw [hct, hm]
      exact ⟨rfl, fun p hp => ⟨(hall p hp).2, fun _ ht => Option.some.inj ht ▸ (hall p hp).1⟩⟩
    · have hno : ∀ f ∈ c.fields, f.name ≠ s "children" := fun f hf e => hex ⟨f, hf, e⟩
      rw [childTagsOf_none hno, hview.2 hno]
      exact ⟨rfl, fun p hp => nomatch hp⟩

theorem part_parsed_valid {reg : Registry} (hreg : regW reg = true) {x : Elem1} {p : Part}
    (h : partFromXml reg x = .ok p) : validPart reg p = true := by
  obtain ⟨c, m, hc, hcon, rfl⟩ := partFromXml_inv h
  obtain ⟨hs, htag, hf, _⟩ := construct_valid (regW_part hreg hc) (partKw_from x) hcon
  exact validPart_iff.2 ⟨c, by rw [htag, (findClass_spec hc).2]; exact hc, hs, hf⟩

theorem msg_parsed_valid {reg : Registry} (hreg : regW reg = true) {x : Elem} {m : Msg}
    (h : fromXml reg x = .ok m) : valid reg m = true := by
  obtain ⟨c, ps, hc, hps, hcon⟩ := fromXml_inv h
  obtain ⟨hs, htag, hf, hsome, hch⟩ := construct_valid (regW_msg hreg hc) (msgKw_from x ps) hcon
  refine valid_iff.2 ⟨c, by rw [htag, (findClass_spec hc).2]; exact hc, hs, hf, hsome, fun p hp => ?_⟩
  obtain ⟨x1, hx1⟩ := partsFromXml_mem hps p (hch p hp).1
  exact ⟨part_parsed_valid hreg hx1, (hch p hp).2⟩

theorem canonVal_idem (v : Option Str) (h : ∀ t, v = some t → t ≠ [] → pyStrip t ≠ []) :
    canonVal (canonVal v) = canonVal v := by
  cases v with
  | none => rfl
  | some t =>
    cases t with
    | nil => rfl
    | cons c cs =>
      have := h _ rfl (by simp)
      have he : (pyStrip (c :: cs)).isEmpty = false := by
        cases hp : pyStrip (c :: cs) with
        | nil => exact absurd hp this
        | cons _ _ => rfl
      simp [canonVal, he, pyStrip_idem]

theorem canonFields_idem (fs : List (Str × Option Str)) (hn : (fs.map Prod.fst).Nodup)
    (h : ∀ t, valueOf fs = some t → t ≠ [] → pyStrip t ≠ []) :
    canonFields (canonFields fs) = canonFields fs := by
  simp only [canonFields, List.map_map]
  apply List.map_congr_left
  intro kv hkv
  obtain ⟨k, v⟩ := kv
  simp only [Function.comp, cv]
  by_cases hk : k = s "value"
  · subst hk
    have hv : valueOf fs = v := by rw [valueOf_eq, alookup_of_mem hn hkv]; rfl
    simp only [if_true]
    rw [canonVal_idem v (fun t ht => h t (hv.trans ht))]
  · simp only [if_neg hk]

theorem valid_nodup {reg : Registry} (hreg : regW reg = true) {m : Msg} (h : valid reg m = true) :
    (m.fields.map Prod.fst).Nodup ∧
    ∀ ps, m.children = some ps → ∀ p ∈ ps, (p.fields.map Prod.fst).Nodup := by
  obtain ⟨c, hc, _, hf, _, hch⟩ := valid_iff.1 h
  refine ⟨fieldsOk_nodup (regW_msg hreg hc) hf, fun ps hps p hp => ?_⟩
  obtain ⟨c', hc', _, hf'⟩ := validPart_iff.1 (hch p (by rw [hps]; exact hp)).1
  exact fieldsOk_nodup (regW_part hreg hc') hf'

theorem canon_idem {reg : Registry} (hreg : regW reg = true) {m : Msg} (hv : valid reg m = true)
    (hf : ∀ t, valueOf m.fields = some t → t ≠ [] → pyStrip t ≠ [])
    (hc : ∀ ps, m.children = some ps → ∀ p ∈ ps, ∀ t, valueOf p.fields = some t → t ≠ [] → pyStrip t ≠ []) :
    canon (canon m) = canon m := by
  obtain ⟨hn, hnc⟩ := valid_nodup hreg hv
  obtain ⟨tag, fields, ch⟩ := m
  simp only [canon, canonFields_idem fields hn hf, Option.map_map]
  congr 1
  cases ch with
  | none => rfl
  | some ps =>
    simp only [Option.map_some, Function.comp, List.map_map, Option.some.injEq]
    apply List.map_congr_left
    intro p hp
    show canonPart (canonPart p) = canonPart p
    have := canonFields_idem p.fields (hnc ps rfl p hp) (hc ps rfl p hp)
    simp only [canonPart, this]

/-- parse ∘ serialise is idempotent on messages without blank (non-empty, whitespace-only) text -/
theorem fixed_point {reg : Registry} (hreg : regW reg = true) {m m' : Msg} (hv : valid reg m = true)
    (hf : ∀ t, valueOf m.fields = some t → t ≠ [] → pyStrip t ≠ [])
    (hc : ∀ ps, m.children = some ps → ∀ p ∈ ps, ∀ t, valueOf p.fields = some t → t ≠ [] → pyStrip t ≠ [])
    (hp : fromXml reg (toXml m) = .ok m') : fromXml reg (toXml m') = .ok m' := by
  rw [msg_canon hreg hv] at hp
  cases hp
  rw [msg_canon hreg (valid_canon hreg hv), canon_idem hreg hv hf hc]

end Indi.C03

namespace Indi.DevB
open Indi Indi.Dev Indi.Spec.Dev

theorem normVal_readback (t : Str) :
    normVal (if t.isEmpty then none else some (pyStrip t)) = normVal (some t) :=
  C03.normVal_canonVal (some t)

end Indi.DevB
