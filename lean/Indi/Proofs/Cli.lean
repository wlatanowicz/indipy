/-
  Lemmas for C15 / C16 (client mirror).  Two analyses of `processMessage`: against the reference interpreter on
  well-formed messages (`processMessage_spec`, where `applySet` is `applyUpdate`/`updateEvents`), and by what any
  message does to the one entry it addresses (`processMessage_cases`, where `applySet` is a `Run` of announced
  changes).  Unique keys, the events' exactness and the chain invariant are read off the second; the chain
  invariant is stated on the mirror as a map from (device, property) to views (`look`, `look_put`), which is also
  how the deployment proof (Proofs/SysCli.lean) reads it.
-/
import Indi.Spec.Cli

namespace Indi.Cli
open Indi Indi.Spec.Cli

section dict
variable {α : Type}

theorem olook_oput (k k' : Option Str) (v : α) (l : List (Option Str × α)) :
    olook k (oput k' v l) = if k' = k then some v else olook k l := by
  induction l with
  | nil => simp [oput, olook]
  | cons a l ih =>
    obtain ⟨a1, a2⟩ := a
    simp only [oput]
    split <;> simp only [olook] <;> grind

theorem olook_odel_ne (k k' : Option Str) (l : List (Option Str × α)) (h : k' ≠ k) :
    olook k (odel k' l) = olook k l := by
  induction l with
  | nil => simp [odel]
  | cons a l ih =>
    obtain ⟨a1, a2⟩ := a
    simp only [odel]
    split <;> simp only [olook] <;> grind

theorem oput_self (k : Option Str) (v : α) (l : List (Option Str × α)) (h : olook k l = some v) :
    oput k v l = l := by
  induction l with
  | nil => simp [olook] at h
  | cons a l ih =>
    obtain ⟨a1, a2⟩ := a
    simp only [olook] at h
    simp only [oput]
    split <;> grind

theorem olook_mem (k : Option Str) (v : α) (l : List (Option Str × α)) (h : olook k l = some v) :
    (k, v) ∈ l := by
  induction l with
  | nil => simp [olook] at h
  | cons a l ih =>
    obtain ⟨a1, a2⟩ := a
    simp only [olook] at h
    grind

theorem olook_none_iff (k : Option Str) (l : List (Option Str × α)) :
    olook k l = none ↔ k ∉ l.map Prod.fst := by
  induction l with
  | nil => simp [olook]
  | cons a l ih =>
    obtain ⟨a1, a2⟩ := a
    simp only [olook]
    grind

theorem mem_olook (k : Option Str) (v : α) (l : List (Option Str × α)) (hnd : (l.map Prod.fst).Nodup)
    (h : (k, v) ∈ l) : olook k l = some v := by
  induction l with
  | nil => simp at h
  | cons a l ih =>
    obtain ⟨a1, a2⟩ := a
    simp only [olook]
    simp only [List.map_cons, List.nodup_cons, List.mem_map] at hnd
    grind

theorem forall_mem_oput {P : Option Str × α → Prop} {k : Option Str} {v : α} {l : List (Option Str × α)}
    (h : ∀ x ∈ l, P x) (hv : P (k, v)) : ∀ x ∈ oput k v l, P x := by
  induction l with
  | nil => simpa [oput] using hv
  | cons a l ih =>
    obtain ⟨a1, a2⟩ := a
    simp only [oput]
    split <;> grind

theorem keys_oput (k : Option Str) (v : α) (l : List (Option Str × α)) :
    (oput k v l).map Prod.fst = if k ∈ l.map Prod.fst then l.map Prod.fst else l.map Prod.fst ++ [k] := by
  induction l with
  | nil => simp [oput]
  | cons a l ih =>
    obtain ⟨a1, a2⟩ := a
    simp only [oput]
    split <;> simp only [List.map_cons, ih] <;> grind

theorem keys_oput_of_look (k : Option Str) (v w : α) (l : List (Option Str × α)) (h : olook k l = some w) :
    (oput k v l).map Prod.fst = l.map Prod.fst := by
  rw [keys_oput, if_pos]
  exact Decidable.of_not_not fun hn => by simp [(olook_none_iff k l).2 hn] at h

theorem mem_keys_oput (x : Option Str) (k : Option Str) (v : α) (l : List (Option Str × α))
    (h : x ∈ (oput k v l).map Prod.fst) : x ∈ l.map Prod.fst ∨ x = k := by
  rw [keys_oput] at h
  split at h
  · exact Or.inl h
  · simpa using h

theorem nodup_keys_oput (k : Option Str) (v : α) (l : List (Option Str × α)) (hnd : (l.map Prod.fst).Nodup) :
    ((oput k v l).map Prod.fst).Nodup := by
  rw [keys_oput]
  split
  · exact hnd
  · rename_i hk
    refine List.nodup_append.2 ⟨hnd, by simp, fun a ha b hb e => hk ?_⟩
    rwa [← List.mem_singleton.1 hb, ← e]

theorem odel_sublist (k : Option Str) (l : List (Option Str × α)) : (odel k l).Sublist l := by
  induction l with
  | nil => exact .slnil
  | cons a l ih =>
    simp only [odel]
    split
    · exact .cons _ (List.Sublist.refl _)
    · exact .cons_cons _ ih

theorem mem_odel (x : Option Str × α) (k : Option Str) (l : List (Option Str × α))
    (h : x ∈ odel k l) : x ∈ l := (odel_sublist k l).subset h

theorem nodup_keys_odel (k : Option Str) (l : List (Option Str × α)) (hnd : (l.map Prod.fst).Nodup) :
    ((odel k l).map Prod.fst).Nodup := hnd.sublist ((odel_sublist k l).map _)

theorem not_mem_keys_odel (k : Option Str) (l : List (Option Str × α)) (hnd : (l.map Prod.fst).Nodup) :
    k ∉ (odel k l).map Prod.fst := by
  induction l with
  | nil => simp [odel]
  | cons a l ih =>
    obtain ⟨a1, a2⟩ := a
    simp only [odel]
    simp only [List.map_cons, List.nodup_cons] at hnd
    split
    · grind
    · simp only [List.map_cons, List.mem_cons]
      grind

theorem olook_odel_self (k : Option Str) (l : List (Option Str × α)) (hnd : (l.map Prod.fst).Nodup) :
    olook k (odel k l) = none :=
  (olook_none_iff _ _).2 (not_mem_keys_odel k l hnd)

theorem olook_odel_some {k k' : Option Str} {v : α} {l : List (Option Str × α)} (hnd : (l.map Prod.fst).Nodup)
    (h : olook k (odel k' l) = some v) : olook k l = some v := by
  by_cases hk : k' = k
  · rw [← hk, olook_odel_self _ _ hnd] at h; cases h
  · rwa [olook_odel_ne _ _ _ hk] at h

theorem odel_of_look_none (k : Option Str) (l : List (Option Str × α)) (h : olook k l = none) :
    odel k l = l := by
  induction l with
  | nil => rfl
  | cons a l ih =>
    obtain ⟨a1, a2⟩ := a
    simp only [olook] at h
    simp only [odel]
    split <;> grind

theorem olook_append_cons {k : Option Str} {l : List (Option Str × α)} (h : k ∉ l.map Prod.fst) (v : α)
    (r : List (Option Str × α)) : olook k (l ++ (k, v) :: r) = some v := by
  induction l with
  | nil => simp [olook]
  | cons a l ih =>
    simp only [List.map_cons, List.mem_cons, not_or] at h
    simp only [List.cons_append, olook, if_neg (Ne.symm h.1), ih h.2]

theorem oput_append_cons {k : Option Str} {l : List (Option Str × α)} (h : k ∉ l.map Prod.fst) (x v : α)
    (r : List (Option Str × α)) : oput k x (l ++ (k, v) :: r) = l ++ (k, x) :: r := by
  induction l with
  | nil => simp [oput]
  | cons a l ih =>
    simp only [List.map_cons, List.mem_cons, not_or] at h
    simp only [List.cons_append, oput, if_neg (Ne.symm h.1), ih h.2]
end dict

/-- the view the mirror holds under (device, property): `σ[dn][vn]`, if both keys are there -/
def look (σ : Mirror) (dn vn : Option Str) : Option CVec :=
  match olook dn σ with
  | some cd => olook vn cd.vecs
  | none => none

theorem look_of_some {σ : Mirror} {dn : Option Str} {d : CDev} (h : olook dn σ = some d) (vn : Option Str) :
    look σ dn vn = olook vn d.vecs := by
  unfold look; rw [h]

theorem look_of_none {σ : Mirror} {dn : Option Str} (h : olook dn σ = none) (vn : Option Str) :
    look σ dn vn = none := by
  unfold look; rw [h]

theorem look_eq_some {σ : Mirror} {dn vn : Option Str} {v : CVec} :
    look σ dn vn = some v ↔ ∃ d, olook dn σ = some d ∧ olook vn d.vecs = some v := by
  unfold look
  cases olook dn σ <;> simp

theorem look_oput_dev (σ : Mirror) (dn : Option Str) (cd : CDev) (dn' vn' : Option Str) :
    look (oput dn cd σ) dn' vn' = if dn = dn' then olook vn' cd.vecs else look σ dn' vn' := by
  unfold look
  rw [olook_oput]
  by_cases h : dn = dn'
  · simp [h]
  · simp [h]

/-- `hd` is met by the entry of `dn` and, where the mirror has none, by the empty entry a definition starts from -/
theorem look_put {σ : Mirror} {dn : Option Str} {d : CDev} (hd : ∀ vn', olook vn' d.vecs = look σ dn vn')
    (vn : Option Str) (c : CVec) (dn' vn' : Option Str) :
    look (oput dn { vecs := oput vn c d.vecs } σ) dn' vn' =
      if (dn, vn) = (dn', vn') then some c else look σ dn' vn' := by
  rw [look_oput_dev]
  by_cases h1 : dn = dn'
  · subst h1
    by_cases h2 : vn = vn' <;> simp [olook_oput, h2, hd]
  · simp [h1]

theorem defElems_eq (dev vec : Option Str) (ps : List Part) :
    defElems dev vec ps = (elemsOfDef ps,
      ps.map (fun p => Event.value dev vec (attr p.fields "name") .none (textVal p.fields))) := by
  induction ps with
  | nil => rfl
  | cons p ps ih =>
    simp only [defElems, ih, elemsOfDef, List.map_cons]
    cases h : olook (attr p.fields "name") (elemsOfDef ps) with
    | none => simp [odel_of_look_none _ _ h]
    | some x => simp

/-- the value `applySet` computes for a child -/
def newValOf (k : VKind) (p : Part) : Except Exc CVal :=
  match k with
  | .blob => blobFromPart p
  | _ => .ok (textVal p.fields)

theorem childValue_eq (k : VKind) (p : Part) :
    childValue k p = match newValOf k p with | .ok v => some v | .error _ => none := by
  cases k <;> rfl

theorem applySet_cons (k : VKind) (dev vec : Option Str) (es : List (Option Str × CElem)) (p : Part) (ps : List Part) :
    applySet k dev vec es (p :: ps) =
      match olook (attr p.fields "name") es with
      | none => applySet k dev vec es ps
      | some e =>
        match newValOf k p with
        | .error x => (es, [], some x)
        | .ok nv =>
          ((applySet k dev vec (oput (attr p.fields "name") { e with value := nv } es) ps).1,
           (if cvNe nv e.value then
              Event.value dev vec (attr p.fields "name") e.value nv ::
                (applySet k dev vec (oput (attr p.fields "name") { e with value := nv } es) ps).2.1
            else (applySet k dev vec (oput (attr p.fields "name") { e with value := nv } es) ps).2.1),
           (applySet k dev vec (oput (attr p.fields "name") { e with value := nv } es) ps).2.2) := by
  cases k <;> rfl

theorem applyUpdate_cons (k : VKind) (es : List (Option Str × CElem)) (p : Part) (ps : List Part) :
    applyUpdate k es (p :: ps) =
      applyUpdate k (match olook (attr p.fields "name") es, childValue k p with
        | some e, some v => oput (attr p.fields "name") { e with value := v } es
        | _, _ => es) ps := rfl

theorem applySet_ok (k : VKind) (dev vec : Option Str) (ps : List Part) :
    ∀ es, (∀ p ∈ ps, (olook (attr p.fields "name") es).isSome → (childValue k p).isSome) →
      applySet k dev vec es ps = (applyUpdate k es ps, updateEvents k dev vec es ps, none) := by
  induction ps with
  | nil => intro es _; rfl
  | cons p ps ih =>
    intro es h
    rw [applySet_cons, applyUpdate_cons]
    simp only [updateEvents]
    cases hl : olook (attr p.fields "name") es with
    | none => exact ih es (fun q hq => h q (List.mem_cons_of_mem _ hq))
    | some e =>
      have hc := h p (List.mem_cons_self ..) (by rw [hl]; rfl)
      rw [childValue_eq] at hc ⊢
      cases hv : newValOf k p with
      | error x => rw [hv] at hc; cases hc
      | ok nv =>
        dsimp only
        rw [ih]
        · unfold cvNe
          split <;> rfl
        · intro q hq hq'
          refine h q (List.mem_cons_of_mem _ hq) ?_
          rw [olook_oput] at hq'
          split at hq'
          · rename_i hn; rw [← hn, hl]; rfl
          · exact hq'

theorem streamOk_children (σ : Mirror) (m : Msg) (kind : VKind) (d : CDev) (v : CVec)
    (h : streamOk σ m = true) (hd : defKind m.tag = none) (hs : setKind m.tag = some kind)
    (hdev : olook (attr m.fields "device") σ = some d) (hv : olook (attr m.fields "name") d.vecs = some v)
    (hk : v.kind = kind) :
    ∀ p ∈ m.children.getD [], (olook (attr p.fields "name") v.elems).isSome → (childValue kind p).isSome := by
  intro p hp hl
  cases kind with
  | blob =>
    simp only [streamOk, classify, hd, hs, hdev, hv, hk] at h
    simp only [bne_self_eq_false, Bool.false_or, List.all_eq_true] at h
    have := h p hp
    cases hh : olook (attr p.fields "name") v.elems <;> simp_all
  | _ => simp [childValue]

theorem processMessage_update {σ : Mirror} {m : Msg} {k : VKind} {d : CDev} {v : CVec}
    (hd : defKind m.tag = none) (hs : setKind m.tag = some k)
    (hdev : olook (attr m.fields "device") σ = some d) (hv : olook (attr m.fields "name") d.vecs = some v)
    (hk : v.kind = k) :
    (processMessage σ m).mirror =
      oput (attr m.fields "device") (CDev.mk (oput (attr m.fields "name")
        ({ v with state := attr m.fields "state",
                  elems := (applySet k (attr m.fields "device") (attr m.fields "name") v.elems (m.children.getD [])).1 } : CVec)
        d.vecs)) σ := by
  simp [processMessage, hd, hs, hdev, hv, hk]

theorem processMessage_spec (σ : Mirror) (m : Msg) (h : streamOk σ m = true) :
    (processMessage σ m).exc = none ∧ (processMessage σ m).mirror = refStep σ m ∧
    (processMessage σ m).events = eventsOf σ m := by
  cases hd : defKind m.tag with
  | some kind =>
    simp only [processMessage, refStep, eventsOf, classify, hd, defElems_eq, viewOfDef]
    cases olook (attr m.fields "device") σ <;> simp
  | none =>
    cases hs : setKind m.tag with
    | some kind =>
      simp only [processMessage, refStep, eventsOf, classify, hd, hs, onDev]
      cases hdev : olook (attr m.fields "device") σ with
      | none => simp
      | some d =>
        simp only []
        cases hv : olook (attr m.fields "name") d.vecs with
        | none => simp [oput_self _ _ _ hdev]
        | some v =>
          simp only []
          by_cases hk : v.kind = kind
          · have := applySet_ok kind (attr m.fields "device") (attr m.fields "name") (m.children.getD []) v.elems
              (streamOk_children σ m kind d v h hd hs hdev hv hk)
            simp [hk, this]
          · simp [hk, oput_self _ _ _ hdev]
    | none =>
      simp only [processMessage, refStep, eventsOf, classify, hd, hs, onDev]
      by_cases ht : m.tag = s "delProperty"
      · simp only [ht, if_true]
        cases hdev : olook (attr m.fields "device") σ with
        | none => cases attr m.fields "name" <;> simp [odel_of_look_none _ _ hdev]
        | some d => cases attr m.fields "name" <;> simp
      · simp [ht]

/-- `MirrorWf` for the entry of one device: its property names are distinct, and the element names of each property -/
def VecsWf (vs : List (Option Str × CVec)) : Prop :=
  (vs.map Prod.fst).Nodup ∧ ∀ v ∈ vs, (v.2.elems.map Prod.fst).Nodup

/-- dict keys are unique at every level of the mirror (true of every mirror the client can build) -/
def MirrorWf (σ : Mirror) : Prop :=
  (σ.map Prod.fst).Nodup ∧ ∀ d ∈ σ, (d.2.vecs.map Prod.fst).Nodup ∧ ∀ v ∈ d.2.vecs, (v.2.elems.map Prod.fst).Nodup

theorem VecsWf_nil : VecsWf [] := by simp [VecsWf]

theorem Wf_look {σ : Mirror} {dev : Option Str} {d : CDev} (h : MirrorWf σ) (hl : olook dev σ = some d) : VecsWf d.vecs :=
  h.2 _ (olook_mem _ _ _ hl)

theorem VecsWf_look {vs : List (Option Str × CVec)} {name : Option Str} {v : CVec} (h : VecsWf vs)
    (hl : olook name vs = some v) : (v.elems.map Prod.fst).Nodup :=
  h.2 _ (olook_mem _ _ _ hl)

theorem Wf_oput {σ : Mirror} (dev : Option Str) (d : CDev) (h : MirrorWf σ) (hd : VecsWf d.vecs) : MirrorWf (oput dev d σ) :=
  ⟨nodup_keys_oput _ _ _ h.1, forall_mem_oput h.2 hd⟩

theorem VecsWf_oput {vs : List (Option Str × CVec)} (name : Option Str) (v : CVec) (h : VecsWf vs)
    (hv : (v.elems.map Prod.fst).Nodup) : VecsWf (oput name v vs) :=
  ⟨nodup_keys_oput _ _ _ h.1, forall_mem_oput h.2 hv⟩

theorem Wf_odel {σ : Mirror} (dev : Option Str) (h : MirrorWf σ) : MirrorWf (odel dev σ) :=
  ⟨nodup_keys_odel _ _ h.1, fun x hx => h.2 x (mem_odel _ _ _ hx)⟩

theorem VecsWf_odel {vs : List (Option Str × CVec)} (name : Option Str) (h : VecsWf vs) : VecsWf (odel name vs) :=
  ⟨nodup_keys_odel _ _ h.1, fun x hx => h.2 x (mem_odel _ _ _ hx)⟩

theorem nodup_elemsOfDef (ps : List Part) : ((elemsOfDef ps).map Prod.fst).Nodup := by
  induction ps with
  | nil => simp [elemsOfDef]
  | cons p ps ih =>
    simp only [elemsOfDef, List.map_cons, List.nodup_cons]
    exact ⟨not_mem_keys_odel _ _ ih, nodup_keys_odel _ _ ih⟩

/-- a run of announced changes: each step stores a new value in a known element and raises the ValueUpdate from the
value it held.  This is what `applySet` does to the elements of a property, wherever it stops; the facts C16 needs are
facts about such runs. -/
inductive Run (dev vec : Option Str) : List (Option Str × CElem) → List Event → List (Option Str × CElem) → Prop
  | nil (es) : Run dev vec es [] es
  | cons {es en e nv evs es'} : olook en es = some e → nv ≠ e.value →
      Run dev vec (oput en { e with value := nv } es) evs es' →
      Run dev vec es (Event.value dev vec en e.value nv :: evs) es'

theorem applySet_run (k : VKind) (dev vec : Option Str) (es : List (Option Str × CElem)) (ps : List Part) :
    Run dev vec es (applySet k dev vec es ps).2.1 (applySet k dev vec es ps).1 := by
  fun_induction applySet k dev vec es ps with
  | case1 es => exact .nil es
  | case2 _ _ _ _ _ ih => exact ih
  | case3 es => exact .nil es
  | case4 es p ps name e he newVal nv hnv elems' r ih =>
    by_cases hc : nv = e.value
    · -- storing the value the element holds changes nothing
      subst hc
      have : elems' = es := oput_self _ _ _ he
      simpa [cvNe, ← this] using ih
    · simpa [cvNe, hc] using Run.cons he hc ih

theorem Run.keys {dev vec : Option Str} {es es' : List (Option Str × CElem)} {evs : List Event}
    (h : Run dev vec es evs es') : es'.map Prod.fst = es.map Prod.fst := by
  induction h with
  | nil => rfl
  | cons he _ _ ih => rw [ih, keys_oput_of_look _ _ _ _ he]

theorem Run.event {dev vec : Option Str} {es es' : List (Option Str × CElem)} {evs : List Event}
    (h : Run dev vec es evs es') : ∀ ev ∈ evs, ∃ en o n, ev = Event.value dev vec en o n ∧ o ≠ n := by
  induction h with
  | nil => simp
  | cons _ hne _ ih =>
    intro ev hev
    rcases List.mem_cons.1 hev with rfl | hev
    · exact ⟨_, _, _, rfl, Ne.symm hne⟩
    · exact ih ev hev

/-- `dev` and `name` only abbreviate the two attributes: callers pass `rfl` -/
theorem processMessage_cases (σ : Mirror) (m : Msg) {dev name : Option Str}
    (hdev : attr m.fields "device" = dev) (hname : attr m.fields "name" = name) :
    processMessage σ m = { mirror := σ } ∨
    (∃ k, defKind m.tag = some k ∧ processMessage σ m =
      { mirror := oput dev ⟨oput name (viewOfDef k m) ((olook dev σ).getD ⟨[]⟩).vecs⟩ σ,
        events :=
          (m.children.getD []).map (fun p => Event.value dev name (attr p.fields "name") .none (textVal p.fields)) ++
            [Event.state dev name none (attr m.fields "state"), Event.definition dev name],
        sent := if (olook dev σ).isNone then [dev] else [] }) ∨
    (∃ d v es' evs x, olook dev σ = some d ∧ olook name d.vecs = some v ∧ Run dev name v.elems evs es' ∧
      processMessage σ m =
        { mirror := oput dev ⟨oput name { v with state := attr m.fields "state", elems := es' } d.vecs⟩ σ,
          events := (if attr m.fields "state" != v.state then [Event.state dev name v.state (attr m.fields "state")]
            else []) ++ evs,
          exc := x }) ∨
    (∃ d, olook dev σ = some d ∧ m.tag = s "delProperty" ∧
      processMessage σ m = { mirror := if name = none then odel dev σ else oput dev ⟨odel name d.vecs⟩ σ }) := by
  subst hdev hname
  unfold processMessage
  simp only [defElems_eq]
  cases hk : defKind m.tag with
  | some kind => exact Or.inr (Or.inl ⟨kind, rfl, by cases olook (attr m.fields "device") σ <;> rfl⟩)
  | none =>
    cases hs : setKind m.tag with
    | some kind =>
      cases hd : olook (attr m.fields "device") σ with
      | none => exact Or.inl rfl
      | some d =>
        dsimp only
        cases hv : olook (attr m.fields "name") d.vecs with
        | none => exact Or.inl rfl
        | some v =>
          by_cases hkk : (v.kind != kind) = true
          · exact Or.inl (if_pos hkk)
          · exact Or.inr (Or.inr (Or.inl ⟨d, v, _, _, _, rfl, hv, applySet_run kind .., if_neg hkk⟩))
    | none =>
      by_cases ht : m.tag = s "delProperty"
      · rw [if_pos ht]
        cases hd : olook (attr m.fields "device") σ with
        | none => exact Or.inl rfl
        | some d => exact Or.inr (Or.inr (Or.inr ⟨d, rfl, ht, by cases attr m.fields "name" <;> rfl⟩))
      · exact Or.inl (if_neg ht)

/-- `processMessage_cases` without the events and the values: what the invariants on keys need of it -/
theorem processMessage_shape (σ : Mirror) (m : Msg) :
    (processMessage σ m).mirror = σ ∨
    (∃ d V, (olook (attr m.fields "device") σ = some d ∨ ((defKind m.tag).isSome = true ∧ d.vecs = [])) ∧
      ((V.elems.map Prod.fst).Nodup ∨
        ∃ v, olook (attr m.fields "name") d.vecs = some v ∧ V.elems.map Prod.fst = v.elems.map Prod.fst) ∧
      (processMessage σ m).mirror = oput (attr m.fields "device") ⟨oput (attr m.fields "name") V d.vecs⟩ σ) ∨
    (∃ d, olook (attr m.fields "device") σ = some d ∧ m.tag = s "delProperty" ∧
      (processMessage σ m).mirror = match attr m.fields "name" with
        | none => odel (attr m.fields "device") σ
        | some _ => oput (attr m.fields "device") ⟨odel (attr m.fields "name") d.vecs⟩ σ) := by
  rcases processMessage_cases σ m rfl rfl with
    e | ⟨k, hk, e⟩ | ⟨d, v, es', evs, x, hd, hv, hrun, e⟩ | ⟨d, hd, ht, e⟩ <;> rw [e]
  · exact Or.inl rfl
  · refine Or.inr (Or.inl ⟨_, _, ?_, Or.inl (nodup_elemsOfDef (m.children.getD [])), rfl⟩)
    cases olook (attr m.fields "device") σ <;> simp [hk]
  · exact Or.inr (Or.inl ⟨d, _, Or.inl hd, Or.inr ⟨v, hv, hrun.keys⟩, rfl⟩)
  · exact Or.inr (Or.inr ⟨d, hd, ht, by cases attr m.fields "name" <;> rfl⟩)

/-- the step function of `track` (Spec/Cli.lean), named so that `track` of an extended log is a fold that starts
from `track` of the log (`track_append`) -/
def trackF (dev vec elem : Option Str) (acc : Option CVal) (ev : Event) : Option CVal :=
  match ev with
  | .value d v e _ new => if d = dev && v = vec && e = elem then some new else acc
  | _ => acc

theorem track_eq (log : List Event) (dev vec elem : Option Str) :
    track log dev vec elem = log.foldl (trackF dev vec elem) none := rfl

theorem track_append (l l' : List Event) (d v e : Option Str) :
    track (l ++ l') d v e = l'.foldl (trackF d v e) (track l d v e) := by
  simp [track_eq, List.foldl_append]

theorem foldl_trackF_skip (dn vn en : Option Str) (evs : List Event)
    (h : ∀ ev ∈ evs, ∀ o n, ev ≠ Event.value dn vn en o n) (acc : Option CVal) :
    evs.foldl (trackF dn vn en) acc = acc := by
  induction evs generalizing acc with
  | nil => rfl
  | cons ev evs ih =>
    rw [List.foldl_cons, ih (fun x hx => h x (List.mem_cons_of_mem _ hx))]
    have := h ev (List.mem_cons_self ..)
    cases ev <;> simp only [trackF]
    grind

theorem track_append_other (dev name dn vn en : Option Str) (L evs : List Event)
    (hk : ∀ ev ∈ evs, evDev ev = dev ∧ evVec ev = name) (hne : ¬(dev = dn ∧ name = vn)) :
    track (L ++ evs) dn vn en = track L dn vn en := by
  rw [track_append, foldl_trackF_skip]
  rintro _ hev o n rfl
  exact hne ⟨(hk _ hev).1.symm, (hk _ hev).2.symm⟩

/-- `chainInv` for the elements of one vector -/
def ElemInv (dev name : Option Str) (es : List (Option Str × CElem)) (L : List Event) : Prop :=
  ∀ en e, olook en es = some e → track L dev name en = some e.value

theorem ElemInv_put {dev name : Option Str} {es : List (Option Str × CElem)} {L : List Event}
    (h : ElemInv dev name es L) (pn : Option Str) (e : CElem) (o : CVal) :
    ElemInv dev name (oput pn e es) (L ++ [Event.value dev name pn o e.value]) := by
  intro en e' he
  rw [olook_oput] at he
  rw [track_append]
  split at he
  · cases he; simp_all [trackF]
  · rename_i hpe; simp [trackF, hpe, h _ _ he]

theorem ElemInv_append_nonvalue {dev name : Option Str} {es : List (Option Str × CElem)} {L : List Event}
    (h : ElemInv dev name es L) (evs : List Event) (hev : ∀ ev ∈ evs, ∀ d v e o n, ev ≠ Event.value d v e o n) :
    ElemInv dev name es (L ++ evs) := by
  intro en e he
  rw [track_append, foldl_trackF_skip _ _ _ _ fun ev h o n => hev ev h _ _ _ o n, h en e he]

theorem Run.elemInv {dev vec : Option Str} {es es' : List (Option Str × CElem)} {evs : List Event}
    (h : Run dev vec es evs es') : ∀ {L}, ElemInv dev vec es L → ElemInv dev vec es' (L ++ evs) := by
  induction h with
  | nil => intro L h; simpa using h
  | cons _ _ _ ih => intro L h; simpa using ih (ElemInv_put h _ _ _)

/-- every ValueUpdate of `evs` carries as its old value the value last announced before it, `L` being the log so far -/
def Chained (L evs : List Event) : Prop :=
  ∀ pre post d v e o n, evs = pre ++ Event.value d v e o n :: post → track (L ++ pre) d v e = some o

theorem Chained.nil (L : List Event) : Chained L [] := by
  intro pre post d v e o n h; simp at h

theorem Chained.cons {L evs : List Event} {ev : Event}
    (h1 : ∀ d v e o n, ev = Event.value d v e o n → track L d v e = some o) (h2 : Chained (L ++ [ev]) evs) :
    Chained L (ev :: evs) := by
  intro pre post d v e o n h
  cases pre with
  | nil => cases h; simpa using h1 d v e o n rfl
  | cons a pre =>
    cases h
    simpa using h2 pre post d v e o n rfl

theorem Run.chained {dev vec : Option Str} {es es' : List (Option Str × CElem)} {evs : List Event}
    (h : Run dev vec es evs es') : ∀ {L}, ElemInv dev vec es L → Chained L evs := by
  induction h with
  | nil => exact fun _ => .nil _
  | cons he _ _ ih =>
    exact fun h => .cons (fun d v e o n hev => by cases hev; exact h _ _ he) (ih (ElemInv_put h _ _ _))

/-! the dict of a definition keeps the last child of a name, which is also the last event of that key -/

theorem olook_elemsOfDef_cons (en : Option Str) (p : Part) (ps : List Part) :
    olook en (elemsOfDef (p :: ps)) =
      if attr p.fields "name" = en then
        some ((olook en (elemsOfDef ps)).getD
          { name := attr p.fields "name", label := attr p.fields "label", value := textVal p.fields })
      else olook en (elemsOfDef ps) := by
  simp only [elemsOfDef, olook]
  split
  · rename_i h; subst h; rfl
  · rename_i h; exact olook_odel_ne _ _ _ h

theorem foldl_trackF_def (dev name en : Option Str) (ps : List Part) :
    ∀ acc, (ps.map (fun p => Event.value dev name (attr p.fields "name") .none (textVal p.fields))).foldl
        (trackF dev name en) acc =
      match olook en (elemsOfDef ps) with
      | some e => some e.value
      | none => acc := by
  induction ps with
  | nil => intro acc; simp [elemsOfDef, olook]
  | cons p ps ih =>
    intro acc
    simp only [List.map_cons, List.foldl_cons, ih, olook_elemsOfDef_cons]
    by_cases hpe : attr p.fields "name" = en
    · simp only [hpe, if_true, trackF]
      cases olook en (elemsOfDef ps) <;> simp
    · simp only [hpe, if_false, trackF]
      cases olook en (elemsOfDef ps) <;> simp

theorem ElemInv_def (dev name : Option Str) (ps : List Part) (L : List Event) :
    ElemInv dev name (elemsOfDef ps)
      (L ++ ps.map (fun p => Event.value dev name (attr p.fields "name") .none (textVal p.fields))) := by
  intro en e he
  rw [track_append, foldl_trackF_def, he]

/-- `chainInv` by views: for every view the mirror holds (`look`), the value last announced for an element is its
value.  On a mirror with unique keys this is `chainInv` (`ChainL_of_chainInv`, `chainInv_of_ChainL`). -/
def ChainL (σ : Mirror) (log : List Event) : Prop :=
  ∀ dn vn v, look σ dn vn = some v → ElemInv dn vn v.elems log

theorem ChainL_of_chainInv (σ : Mirror) (log : List Event) (h : chainInv σ log = true) : ChainL σ log := by
  intro dn vn v hl en e he
  obtain ⟨d, hd, hv⟩ := look_eq_some.1 hl
  simp only [chainInv, List.all_eq_true, beq_iff_eq] at h
  exact h _ (olook_mem _ _ _ hd) _ (olook_mem _ _ _ hv) _ (olook_mem _ _ _ he)

theorem chainInv_of_ChainL (σ : Mirror) (log : List Event) (hwf : MirrorWf σ) (h : ChainL σ log) :
    chainInv σ log = true := by
  simp only [chainInv, List.all_eq_true, beq_iff_eq]
  intro ⟨dn, d⟩ hd ⟨vn, v⟩ hv ⟨en, e⟩ he
  have hdw := hwf.2 _ hd
  exact h dn vn v (look_eq_some.2 ⟨d, mem_olook _ _ _ hwf.1 hd, mem_olook _ _ _ hdw.1 hv⟩) en e
    (mem_olook _ _ _ (hdw.2 _ hv) he)

theorem ChainL_replace {σ : Mirror} {log evs : List Event} {dev name : Option Str} {d : CDev} {V : CVec}
    (hinv : ChainL σ log) (hd : ∀ vn', olook vn' d.vecs = look σ dev vn')
    (hk : ∀ ev ∈ evs, evDev ev = dev ∧ evVec ev = name) (hV : ElemInv dev name V.elems (log ++ evs)) :
    ChainL (oput dev { vecs := oput name V d.vecs } σ) (log ++ evs) := by
  intro dn vn v' hl en e he
  rw [look_put hd] at hl
  split at hl
  · rename_i hkey
    cases hkey; cases hl
    exact hV en e he
  · rename_i hkey
    rw [track_append_other dev name dn vn en log evs hk fun h => hkey (by rw [h.1, h.2])]
    exact hinv dn vn v' hl en e he

theorem ChainL_processMessage (σ : Mirror) (log : List Event) (hwf : MirrorWf σ) (hinv : ChainL σ log) (m : Msg) :
    ChainL (processMessage σ m).mirror (log ++ (processMessage σ m).events) := by
  rcases processMessage_cases σ m rfl rfl with
    e | ⟨k, _, e⟩ | ⟨d, v, es', evs, x, hd, hv, hrun, e⟩ | ⟨d, hd, _, e⟩ <;> rw [e]
  · simpa using hinv
  · refine ChainL_replace hinv (fun vn' => ?_) ?_ ?_
    · cases h : olook (attr m.fields "device") σ
      · exact (look_of_none h vn').symm
      · exact (look_of_some h vn').symm
    · intro ev hev
      simp only [List.mem_append, List.mem_map, List.mem_cons, List.not_mem_nil, or_false] at hev
      rcases hev with ⟨p, _, rfl⟩ | rfl | rfl <;> simp [evDev, evVec]
    · rw [← List.append_assoc]
      exact ElemInv_append_nonvalue (ElemInv_def _ _ _ _) _ (by simp)
  · refine ChainL_replace hinv (fun _ => (look_of_some hd _).symm) ?_ ?_
    · intro ev hev
      rcases List.mem_append.1 hev with hev | hev
      · rw [List.mem_ite_nil_right, List.mem_singleton] at hev
        simp [hev.2, evDev, evVec]
      · obtain ⟨en, o, n, rfl, _⟩ := hrun.event ev hev; simp [evDev, evVec]
    · rw [← List.append_assoc]
      refine hrun.elemInv (ElemInv_append_nonvalue (hinv _ _ _ (look_eq_some.2 ⟨d, hd, hv⟩)) _ fun ev hev => ?_)
      rw [List.mem_ite_nil_right, List.mem_singleton] at hev
      simp [hev.2]
  · -- a deletion: every view held afterwards was held before
    simp only [List.append_nil]
    intro dn vn v' hl
    obtain ⟨d', hd', hv'⟩ := look_eq_some.1 hl
    refine hinv dn vn v' (look_eq_some.2 ?_)
    split at hd'
    · exact ⟨d', olook_odel_some hwf.1 hd', hv'⟩
    · rw [olook_oput] at hd'
      split at hd'
      · rename_i hdn
        cases hd'
        exact ⟨d, hdn ▸ hd, olook_odel_some (Wf_look hwf hd).1 hv'⟩
      · exact ⟨d', hd', hv'⟩

theorem Chained_processMessage (σ : Mirror) (log : List Event) (hinv : ChainL σ log) (m : Msg)
    (hdef : defKind m.tag = none) : Chained log (processMessage σ m).events := by
  rcases processMessage_cases σ m rfl rfl with
    e | ⟨_, hk, _⟩ | ⟨d, v, _, evs, _, hd, hv, hrun, e⟩ | ⟨_, _, _, e⟩
  · rw [e]; exact .nil _
  · cases hdef.symm.trans hk
  · rw [e]
    have hE := hinv _ _ _ (look_eq_some.2 ⟨d, hd, hv⟩)
    split
    · exact .cons (by simp) (hrun.chained (ElemInv_append_nonvalue hE _ (by simp)))
    · exact hrun.chained hE
  · rw [e]; exact .nil _

end Indi.Cli
