/-
  C01, driver side: operations that write one vector (assign, set_value, state, client writes) are runs of writes
  (`Dev.WRun`): what such a run publishes of a good vector (`WRun.sum`), and that the edits of these operations keep
  vectors good.
-/
import Indi.Proofs.SysVec
import Indi.Proofs.SysB64

namespace Indi.SysP
open Indi Indi.Dev Indi.Cli Indi.Sys Indi.Spec.Sys Indi.Spec.Dev

/-- `hE`: the edits keep vectors good and leave the definition and the `enabled` flag; they may assume that the vector
still has the definition `v0` the run started with.  Then the run publishes updates of good vectors of that definition;
if none, the vector is disabled or looks as before; else the last one shows the vector as the run leaves it -/
theorem _root_.Indi.Dev.WRun.sum {E : Vec → Vec → Prop} {dn : Str} {g : Group} {v0 : Vec}
    (hE : ∀ v v1, E v v1 → VG v → Static v0 v → VG v1 ∧ Static v v1 ∧ v1.enabled = v.enabled)
    {v : Vec} {ms : List Msg} {v' : Vec} (h : WRun E dn g v ms v') (hv : VG v) (h0 : Static v0 v) :
    VG v' ∧ Static v v' ∧ v'.enabled = v.enabled ∧
    (∀ m ∈ ms, vecEnabled g v = true ∧ ∃ v2, setMsg dn g v2 = .ok (some m) ∧ VG v2 ∧ Static v v2) ∧
    (ms = [] → vecEnabled g v = true → Same v v') ∧
    (ms ≠ [] → ∃ m v2, ms.getLast? = some m ∧ setMsg dn g v2 = .ok (some m) ∧ VG v2 ∧ Same v2 v') := by
  induction h with
  | done v => exact ⟨hv, Static.refl v, rfl, (fun _ h => nomatch h), fun _ _ => Same.refl v, fun h => absurd rfl h⟩
  | @write v v1 mo ms v' he hm _ ih =>
    obtain ⟨hv1, hst, hen⟩ := hE v v1 he hv h0
    have hs3 : Same v1 (asgV3 g v1) := same_refresh_if g v1
    have e1 : vecEnabled g v1 = vecEnabled g v := vecEnabled_of (GEq.refl g) hen
    have e3 : vecEnabled g (asgV3 g v1) = vecEnabled g v1 := hs3.vecEnabled (GEq.refl g)
    have hst3 := hst.trans hs3.static
    obtain ⟨i1, i2, i3, i4, i5, i6⟩ := ih (hv1.refresh_if _) (h0.trans hst3)
    refine ⟨i1, hst3.trans i2, (i3.trans hs3.enabled).trans hen, fun m hm' => ?_, fun hnil hen0 => ?_, fun _ => ?_⟩
    · rcases List.mem_append.1 hm' with hm' | hm'
      · rw [Option.mem_toList.1 hm'] at hm
        exact ⟨e1 ▸ (setMsg_some hm).1, v1, hm, hv1, hst⟩
      · obtain ⟨k0, v2, k1, k2, k3⟩ := i4 m hm'
        exact ⟨(e3.trans e1) ▸ k0, v2, k1, k2, hst3.trans k3⟩
    · -- nothing published: the vector would be disabled
      cases mo with
      | some m' => cases hnil
      | none => exact absurd (e1 ▸ setMsg_none_iff hm) (by simp [hen0])
    · by_cases hms : ms = []
      · subst hms
        cases mo with
        | none => contradiction
        | some m' => exact ⟨m', v1, rfl, hm, hv1, hs3.trans (i5 rfl (e3.trans (setMsg_some hm).1))⟩
      · obtain ⟨m, v2, k1, k2, k3, k4⟩ := i6 hms
        exact ⟨m, v2, by rw [List.getLast?_append_of_ne_nil _ hms]; exact k1, k2, k3, k4⟩
  | @fail v v1 x ms v' he hx _ ih =>
    -- the update of a good vector can always be rendered
    obtain ⟨mo, hmo⟩ := setMsg_ok dn g (hE v v1 he hv h0).1.ok
    rw [hmo] at hx; cases hx

theorem _root_.Indi.Dev.Stores.vg {ei : Nat} {val : Value} {v v2 : Vec} (h : Stores ei val v v2) (hvg : VG v)
    (hf : DevB.hasFormat val = true) (hb : bytesOk val = true) : VG v2 ∧ Static v v2 ∧ v2.enabled = v.enabled := by
  obtain ⟨hfr, hlen, hel⟩ := h.spec
  have hst : Static v v2 :=
    ⟨by rw [hfr], by rw [hfr], by rw [hfr], map_eq_map_of_forall hlen fun i e e' hi he' => by
      obtain ⟨q1, q2, _⟩ := hel i e e' hi he'
      simp only [core, q1, q2]⟩
  obtain ⟨⟨hok2, hfmt2⟩, _⟩ := h.good hvg.good hf
  exact ⟨hvg.of_static hst hok2 hfmt2 (List.all_eq_true.2
    (h.values (Q := fun x => bytesOk x = true) hb (fun _ => rfl) (List.all_eq_true.1 hvg.bytes))), hst, by rw [hfr]⟩

theorem _root_.Indi.Dev.SetsState.vg {v v1 : Vec} (h : SetsState v v1) (hvg : VG v) :
    VG v1 ∧ Static v v1 ∧ v1.enabled = v.enabled := by
  obtain ⟨t, ht, rfl⟩ := h
  exact ⟨⟨(DevB.vecGood_state hvg.good ht).1, hvg.fmt, hvg.bytes, hvg.names⟩, ⟨rfl, rfl, rfl, rfl⟩, rfl⟩

theorem valueFromPart_bytes {k : Kind} {p : Part} {val : Value} (h : valueFromPart k p = .ok val) :
    bytesOk val = true := by
  rcases valueFromPart_inv h with hnb | ⟨_, _, _, hd, rfl⟩
  · exact bytesOk_nonblob hnb
  · simp only [bytesOk, List.all_eq_true, decide_eq_true_eq]
    exact SysB64.decode_bytes _ _ hd

theorem _root_.Indi.Dev.Writes.vg {ps : List Part} {v v2 : Vec} (h : Dev.Writes ps v v2) (hvg : VG v)
    (hps : v.kind = .blob → ∀ p ∈ ps, DevB.fmtPresent p = true) : VG v2 ∧ Static v v2 ∧ v2.enabled = v.enabled := by
  obtain ⟨p, hp, n, ei, val, _, _, hval, hs⟩ := h
  exact hs.vg hvg (DevB.valueFromPart_fmt hval fun hb => hps hb p hp) (valueFromPart_bytes hval)

end Indi.SysP
