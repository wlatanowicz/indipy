/-
  Lemmas for C17 (`waitforevent`): the operational model `Wait.run` against the declarative specification
  `Spec.Wait`, by an invariant over the instants 1 … n.  The specification is turned into recurrences over the
  instants (`out_succ`, `sends_succ`); one instant of the model is written field by field (`instant_eq`), and its
  outcome obeys the same recurrence (`instant_ctl`).
-/
import Indi.Spec.Wait

namespace Indi.Wait
open Indi.Spec.Wait

theorem runFrom_succ (cfg : Cfg) (batches : List Batch) (st : St) (t n : Nat) :
    runFrom cfg batches st t (n + 1) = instant cfg batches (runFrom cfg batches st t n) (t + n) := by
  induction n generalizing st t with
  | zero => simp [runFrom]
  | succ n ih =>
    rw [runFrom, ih, runFrom]
    congr 1
    omega

/-- the first matching event among the batches processed at instant `t` -/
def newMatch (batches : List Batch) (t : Nat) : Option (Nat × Nat) :=
  (batches.filter fun b => b.1 = t).findSome? fun b => (firstTrue b.2 0).map fun i => (t, i)

theorem firstMatch_succ (batches : List Batch) (n : Nat) :
    firstMatch batches (n + 1) = (firstMatch batches n).or (newMatch batches (n + 1)) := by
  unfold firstMatch newMatch
  rw [List.range_succ, List.findSome?_append]
  simp

theorem firstMatch_zero (batches : List Batch) (hb : ∀ b ∈ batches, 1 ≤ b.1) :
    firstMatch batches 0 = none := by
  unfold firstMatch
  have : (batches.filter fun b => b.1 = 0) = [] := by
    rw [List.filter_eq_nil_iff]
    intro b hb'
    have := hb b hb'
    simp
    omega
  simp [List.range_succ, this]

theorem newMatch_fst {batches : List Batch} {t t' i : Nat} (h : newMatch batches t = some (t', i)) :
    t' = t := by
  unfold newMatch at h
  obtain ⟨b, _, hb⟩ := List.exists_of_findSome?_eq_some h
  cases hf : firstTrue b.2 0 with
  | none => simp [hf] at hb
  | some j =>
    simp [hf] at hb
    omega

theorem firstMatch_le {batches : List Batch} {n t i : Nat} (h : firstMatch batches n = some (t, i)) :
    t ≤ n := by
  unfold firstMatch at h
  obtain ⟨a, ha, hb⟩ := List.exists_of_findSome?_eq_some h
  have := newMatch_fst (batches := batches) hb
  simp at ha
  omega

theorem out_iff (cfg : Cfg) (batches : List Batch) (n : Nat) (o : Outcome) :
    expectedOutcome cfg batches n = o ↔
      match o with
      | .pending => firstMatch batches n = none ∧ ∀ τ, effectiveTimeout cfg = some τ → n < τ
      | .event t i => firstMatch batches n = some (t, i) ∧ ∀ τ, effectiveTimeout cfg = some τ → t ≤ τ
      | .timeout τ => effectiveTimeout cfg = some τ ∧ τ ≤ n ∧ ∀ tm i, firstMatch batches n = some (tm, i) → τ < tm := by
  unfold expectedOutcome
  cases hm : firstMatch batches n with
  | none =>
    cases he : effectiveTimeout cfg with
    | none => cases o <;> simp
    | some τ => by_cases h : τ ≤ n <;> cases o <;> simp [h] <;> omega
  | some p =>
    obtain ⟨t', i'⟩ := p
    cases he : effectiveTimeout cfg with
    | none => cases o <;> simp
    | some τ =>
      by_cases h : t' ≤ τ
      · cases o <;> simp [h] <;> omega
      · -- the match lies within the horizon: a timeout before it has passed, so the wait is not pending
        have h' : τ ≤ n := by have := firstMatch_le hm; omega
        cases o <;> simp [h, h'] <;> omega

theorem completion_le {cfg : Cfg} {batches : List Batch} {n tc : Nat}
    (h : completionTime (expectedOutcome cfg batches n) = some tc) : tc ≤ n := by
  cases ho : expectedOutcome cfg batches n with
  | pending => simp [ho, completionTime] at h
  | event t i => rw [ho] at h; cases h; exact firstMatch_le ((out_iff ..).1 ho).1
  | timeout τ => rw [ho] at h; cases h; exact ((out_iff ..).1 ho).2.1

/-- the expected outcome one instant later: a completed wait stays as it is; a pending one completes with the first
matching event of the instant `t`, else times out if `t` is the timeout instant -/
def nextOut (o : Outcome) (nm : Option (Nat × Nat)) (isTimeout : Bool) (t : Nat) : Outcome :=
  match o, nm with
  | .pending, some (_, i) => .event t i
  | .pending, none => if isTimeout then .timeout t else .pending
  | o, _ => o

theorem out_succ (cfg : Cfg) (batches : List Batch) (n : Nat) :
    expectedOutcome cfg batches (n + 1) =
      nextOut (expectedOutcome cfg batches n) (newMatch batches (n + 1)) (effectiveTimeout cfg = some (n + 1)) (n + 1) := by
  cases ho : expectedOutcome cfg batches n with
  | event t i =>
    obtain ⟨h1, h2⟩ := (out_iff cfg batches n (.event t i)).1 ho
    exact (out_iff cfg batches (n + 1) (.event t i)).2 ⟨by rw [firstMatch_succ, h1]; rfl, h2⟩
  | timeout τ =>
    obtain ⟨h1, h2, h3⟩ := (out_iff cfg batches n (.timeout τ)).1 ho
    refine (out_iff cfg batches (n + 1) (.timeout τ)).2 ⟨h1, by omega, fun tm i hm => ?_⟩
    rw [firstMatch_succ] at hm
    cases hf : firstMatch batches n with
    | some p =>
      rw [hf, Option.some_or] at hm
      exact h3 tm i (hf.trans hm)
    | none =>
      rw [hf, Option.none_or] at hm
      have := newMatch_fst hm
      omega
  | pending =>
    obtain ⟨hm, hτ⟩ := (out_iff cfg batches n .pending).1 ho
    have hf : firstMatch batches (n + 1) = newMatch batches (n + 1) := by rw [firstMatch_succ, hm, Option.none_or]
    cases hn : newMatch batches (n + 1) with
    | some q =>
      obtain ⟨t', i⟩ := q
      obtain rfl := newMatch_fst hn
      exact (out_iff cfg batches (n + 1) (.event (n + 1) i)).2 ⟨hf.trans hn, hτ⟩
    | none =>
      by_cases he : effectiveTimeout cfg = some (n + 1)
      · simp only [nextOut, he, decide_true, if_true]
        exact (out_iff cfg batches (n + 1) (.timeout (n + 1))).2 ⟨he, Nat.le_refl _, fun tm i h => by rw [hf, hn] at h; cases h⟩
      · simp only [nextOut, he, decide_false, Bool.false_eq_true, if_false]
        refine (out_iff cfg batches (n + 1) .pending).2 ⟨hf.trans hn, fun τ h => ?_⟩
        have := hτ τ h
        have : τ ≠ n + 1 := fun h' => he (h' ▸ h)
        omega

/-- `t` is a polling instant `delay + k·interval` -/
def isTick (cfg : Cfg) (t : Nat) : Bool := t ≥ cfg.delay && (t - cfg.delay) % cfg.interval = 0

/-- must a tick at `t` carry a getProperties, given the final outcome? -/
def sendCond (cfg : Cfg) (out : Outcome) (t : Nat) : Bool :=
  match out with
  | .pending => true
  | .event tc _ => t < tc
  | .timeout tc => t < tc || (t = tc && t = cfg.delay)

theorem expectedSends_eq (cfg : Cfg) (batches : List Batch) (n : Nat) :
    expectedSends cfg batches n =
      if !cfg.polling then [] else
      (List.range (n + 1)).filter fun t => isTick cfg t && sendCond cfg (expectedOutcome cfg batches n) t := rfl

theorem isTick_delay (cfg : Cfg) : isTick cfg cfg.delay = true := by
  simp [isTick]

theorem isTick_next {cfg : Cfg} {a : Nat} (h : isTick cfg a = true) :
    isTick cfg (a + cfg.interval) = true := by
  simp only [isTick, Bool.and_eq_true, decide_eq_true_eq] at h ⊢
  obtain ⟨h1, h2⟩ := h
  refine ⟨by omega, ?_⟩
  have : a + cfg.interval - cfg.delay = (a - cfg.delay) + cfg.interval := by omega
  rw [this, Nat.add_mod_right]
  exact h2

theorem isTick_gap {cfg : Cfg} {a t : Nat} (h : isTick cfg a = true)
    (h1 : a < t) (h2 : t < a + cfg.interval) : isTick cfg t = false := by
  cases ht : isTick cfg t with
  | false => rfl
  | true =>
    exfalso
    simp only [isTick, Bool.and_eq_true, decide_eq_true_eq] at h ht
    obtain ⟨ha, ha'⟩ := h
    obtain ⟨ht, ht'⟩ := ht
    have d1 := Nat.dvd_of_mod_eq_zero ha'
    have d2 := Nat.dvd_of_mod_eq_zero ht'
    have d3 := Nat.dvd_sub d2 d1
    have e : t - cfg.delay - (a - cfg.delay) = t - a := by omega
    rw [e] at d3
    have := Nat.le_of_dvd (by omega) d3
    omega

/-- whatever completes the wait at `n + 1` lies after the ticks up to `n` -/
theorem sendCond_nextOut_le (cfg : Cfg) (o : Outcome) (nm : Option (Nat × Nat)) (b : Bool) {t n : Nat} (ht : t ≤ n) :
    sendCond cfg (nextOut o nm b (n + 1)) t = sendCond cfg o t := by
  cases o with
  | pending => cases nm <;> cases b <;> simp [nextOut, sendCond] <;> omega
  | _ => cases nm <;> rfl

/-- the right side is `!finds …` (below), with `o ≠ .pending` in the place of the model's lock -/
theorem sendCond_nextOut (cfg : Cfg) (o : Outcome) (nm : Option (Nat × Nat)) (b : Bool) (n : Nat)
    (ho : ∀ tc, completionTime o = some tc → tc ≤ n) :
    sendCond cfg (nextOut o nm b (n + 1)) (n + 1) =
      !(decide (o ≠ .pending) || nm.isSome || (b && decide (n + 1 ≠ cfg.delay))) := by
  cases o with
  | pending => cases nm <;> cases b <;> simp [nextOut, sendCond]
  | event tc i => have := ho tc rfl; simp [nextOut, sendCond]; omega
  | timeout tc => have := ho tc rfl; simp [nextOut, sendCond]; omega

theorem sends_succ (cfg : Cfg) (batches : List Batch) (n : Nat) :
    expectedSends cfg batches (n + 1) = expectedSends cfg batches n ++
      if cfg.polling && isTick cfg (n + 1) && sendCond cfg (expectedOutcome cfg batches (n + 1)) (n + 1)
      then [n + 1] else [] := by
  have h : ∀ t, t ≤ n → sendCond cfg (expectedOutcome cfg batches (n + 1)) t
      = sendCond cfg (expectedOutcome cfg batches n) t :=
    fun t ht => by rw [out_succ]; exact sendCond_nextOut_le cfg _ _ _ ht
  rw [expectedSends_eq, expectedSends_eq]
  cases hp : cfg.polling with
  | false => simp
  | true =>
    simp only [Bool.not_true, Bool.false_eq_true, if_false, Bool.true_and]
    rw [List.range_succ, List.filter_append]
    congr 1
    · apply List.filter_congr
      intro t ht
      simp at ht
      rw [h t (by omega)]
    · simp [List.filter_cons]

/-- `nt` is the first polling instant after `n` -/
def Sched (cfg : Cfg) (n nt : Nat) : Prop :=
  n < nt ∧ isTick cfg nt = true ∧ ∀ t, n < t → t < nt → isTick cfg t = false

theorem sched_step {cfg : Cfg} {n nt : Nat} (hi : 1 ≤ cfg.interval) (h : Sched cfg n nt) :
    isTick cfg (n + 1) = decide (n + 1 = nt) ∧
      Sched cfg (n + 1) (if n + 1 = nt then n + 1 + cfg.interval else nt) := by
  obtain ⟨h1, h2, h3⟩ := h
  by_cases he : n + 1 = nt
  · subst he
    simp only [h2, decide_true, if_true, true_and]
    exact ⟨by omega, isTick_next h2, fun _ a b => isTick_gap h2 a b⟩
  · simp only [he, decide_false, if_false]
    exact ⟨h3 _ (by omega) (by omega), by omega, h2, fun t a b => h3 t (by omega) b⟩

theorem deliver_fold (batches : List Batch) (st : St) (t : Nat) :
    (batches.filter fun b => b.1 = t).foldl (fun s b => deliver s t b.2) st = { st with
      lockSet := st.lockSet || (newMatch batches t).isSome,
      result := if st.lockSet then st.result else
        match newMatch batches t with | some (_, i) => some (t, i) | none => st.result } := by
  unfold newMatch
  generalize (batches.filter fun b => b.1 = t) = l
  induction l generalizing st with
  | nil => simp
  | cons b l ih =>
    rw [List.foldl_cons, ih]
    obtain ⟨lockSet, result, timedOut, pollAlive, nextTick, sends, outcome, cbRegistered⟩ := st
    cases lockSet
    · cases hf : firstTrue b.2 0 <;> simp [deliver, hf]
    · simp [deliver]

theorem timeoutStep_eq (s : St) (cfg : Cfg) (t : Nat) :
    timeoutStep s cfg t = { s with
      lockSet := s.lockSet || decide (effectiveTimeout cfg = some t),
      timedOut := s.timedOut || (decide (effectiveTimeout cfg = some t) && !s.lockSet) } := by
  obtain ⟨lockSet, result, timedOut, pollAlive, nextTick, sends, outcome, cbRegistered⟩ := s
  unfold timeoutStep effectiveTimeout
  cases cfg.timeout with
  | none => simp
  | some τ => by_cases h0 : τ > 0 <;> by_cases h1 : t = τ <;> cases lockSet <;> simp [h0, h1] <;> omega

/-- does the polling task wake at `t`? -/
def wakes (cfg : Cfg) (st : St) (t : Nat) : Bool := cfg.polling && st.pollAlive && t = st.nextTick

theorem pollStep_eq (s : St) (cfg : Cfg) (t : Nat) :
    pollStep s cfg t = { s with
      pollAlive := s.pollAlive && !(wakes cfg s t && s.lockSet),
      nextTick := if wakes cfg s t && !s.lockSet then t + cfg.interval else s.nextTick,
      sends := if wakes cfg s t && !s.lockSet then t :: s.sends else s.sends } := by
  obtain ⟨lockSet, result, timedOut, pollAlive, nextTick, sends, outcome, cbRegistered⟩ := s
  unfold pollStep wakes
  split <;> rename_i h
  · cases lockSet <;> simp [h]
  · simp [h]

theorem waiterStep_eq (s : St) (t : Nat) :
    waiterStep s t = { s with
      cbRegistered := s.cbRegistered && !s.lockSet,
      outcome := if s.lockSet && s.cbRegistered then
          (if s.timedOut then .timeout t else match s.result with | some (te, i) => .event te i | none => .pending)
        else s.outcome } := by
  obtain ⟨lockSet, result, timedOut, pollAlive, nextTick, sends, outcome, cbRegistered⟩ := s
  cases lockSet <;> cases cbRegistered <;> rfl

/-- does the polling task, if it wakes at `t`, find the lock set?  It is set by an earlier instant, by a matching
event of this one, or by the timeout task: that one runs after the polling task at the first tick, before it at
every other. -/
def finds (cfg : Cfg) (batches : List Batch) (st : St) (t : Nat) : Bool :=
  st.lockSet || (newMatch batches t).isSome || (decide (effectiveTimeout cfg = some t) && t ≠ cfg.delay)

theorem instant_eq (cfg : Cfg) (batches : List Batch) (st : St) (t : Nat) :
    instant cfg batches st t =
      let hit := (newMatch batches t).isSome
      let tmo := decide (effectiveTimeout cfg = some t)
      let lock := st.lockSet || hit || tmo
      let timedOut := st.timedOut || (tmo && !(st.lockSet || hit))
      let result := if st.lockSet then st.result else
        match newMatch batches t with | some (_, i) => some (t, i) | none => st.result
      let polls := wakes cfg st t && !finds cfg batches st t
      { lockSet := lock, result := result, timedOut := timedOut,
        pollAlive := st.pollAlive && !(wakes cfg st t && finds cfg batches st t),
        nextTick := if polls then t + cfg.interval else st.nextTick,
        sends := if polls then t :: st.sends else st.sends,
        cbRegistered := st.cbRegistered && !lock,
        outcome := if lock && st.cbRegistered then
            (if timedOut then .timeout t else match result with | some (te, i) => .event te i | none => .pending)
          else st.outcome } := by
  unfold instant finds
  by_cases hd : t = cfg.delay
  · subst hd
    simp only [if_true, deliver_fold, timeoutStep_eq, pollStep_eq, waiterStep_eq, wakes, ne_eq, not_true_eq_false,
      decide_false, Bool.and_false, Bool.or_false]
    rfl
  · simp only [hd, if_false, deliver_fold, timeoutStep_eq, pollStep_eq, waiterStep_eq, wakes, ne_eq,
      not_false_eq_true, decide_true, Bool.and_true]
    rfl

/-- one instant on the control fields (`outcome`, `cbRegistered`, `lockSet`, `timedOut`): the hypotheses are the facts
`cb`, `lock`, `timed` of `Inv` before the instant, the conclusion is the outcome by the specification's recurrence
(`nextOut`) and the same three facts after it -/
theorem instant_ctl (cfg : Cfg) (batches : List Batch) (st : St) (t : Nat)
    (hcb : st.cbRegistered = decide (st.outcome = .pending)) (hlock : st.lockSet = !st.cbRegistered)
    (htimed : st.lockSet = false → st.timedOut = false) :
    (instant cfg batches st t).outcome =
      nextOut st.outcome (newMatch batches t) (effectiveTimeout cfg = some t) t ∧
    (instant cfg batches st t).cbRegistered = decide ((instant cfg batches st t).outcome = .pending) ∧
    (instant cfg batches st t).lockSet = !(instant cfg batches st t).cbRegistered ∧
    ((instant cfg batches st t).lockSet = false → (instant cfg batches st t).timedOut = false) := by
  rw [instant_eq]
  obtain ⟨lockSet, result, timedOut, pollAlive, nextTick, sends, outcome, cbRegistered⟩ := st
  simp only at hcb hlock htimed ⊢
  cases cbRegistered <;> subst hlock
  · -- completed earlier: nothing changes
    cases outcome with
    | pending => simp at hcb
    | _ => simp [nextOut]
  · obtain rfl : outcome = .pending := by simpa using hcb
    obtain rfl : timedOut = false := htimed rfl
    cases hn : newMatch batches t <;> by_cases he : effectiveTimeout cfg = some t <;> simp [nextOut, he]

/-- what is known about the state after the instants 1 … n -/
structure Inv (cfg : Cfg) (batches : List Batch) (n : Nat) (st : St) : Prop where
  outcome : st.outcome = expectedOutcome cfg batches n
  cb : st.cbRegistered = decide (expectedOutcome cfg batches n = .pending)
  lock : st.lockSet = !st.cbRegistered
  timed : st.lockSet = false → st.timedOut = false
  sends : st.sends.reverse = expectedSends cfg batches n
  dead : cfg.polling = true → st.pollAlive = false → st.lockSet = true
  alive : cfg.polling = true → st.pollAlive = true → Sched cfg n st.nextTick

theorem inv_init (cfg : Cfg) (batches : List Batch) (hb : ∀ b ∈ batches, 1 ≤ b.1) (hd : 1 ≤ cfg.delay) :
    Inv cfg batches 0 { pollAlive := cfg.polling, nextTick := cfg.delay } := by
  have hm := firstMatch_zero batches hb
  have ho : expectedOutcome cfg batches 0 = .pending := by
    rw [out_iff]
    refine ⟨hm, fun τ h => ?_⟩
    unfold effectiveTimeout at h
    split at h
    · split at h
      · simp at h; omega
      · simp at h
    · simp at h
  refine ⟨by simp [ho], by simp [ho], by simp, by simp, ?_, ?_, ?_⟩
  · rw [expectedSends_eq, ho]
    cases cfg.polling with
    | false => simp
    | true =>
      simp [List.range_succ, List.filter_cons, isTick]
      omega
  · intro h1 h2
    simp [h1] at h2
  · intro _ _
    refine ⟨by show 0 < cfg.delay; omega, isTick_delay cfg, fun t h1 h2 => ?_⟩
    simp [isTick]
    intro h
    simp at h2
    omega

theorem inv_step {cfg : Cfg} {batches : List Batch} {n : Nat} {st : St} (hi : 1 ≤ cfg.interval)
    (h : Inv cfg batches n st) : Inv cfg batches (n + 1) (instant cfg batches st (n + 1)) := by
  obtain ⟨h_out, h_cb, h_lock, h_timed, h_sends, h_dead, h_alive⟩ := h
  obtain ⟨c_out, c_cb, c_lock, c_timed⟩ := instant_ctl cfg batches st (n + 1) (h_out ▸ h_cb) h_lock h_timed
  rw [h_out, ← out_succ] at c_out
  refine ⟨c_out, c_out ▸ c_cb, c_lock, c_timed, ?_, fun hp ha => ?_, fun hp ha => ?_⟩
  · -- `sends`: the specification asks for a getProperties at `n + 1` exactly if the polling task finds no lock
    have hfinds : sendCond cfg (expectedOutcome cfg batches (n + 1)) (n + 1) = !finds cfg batches st (n + 1) := by
      rw [out_succ, sendCond_nextOut, finds, h_lock, h_cb]
      · simp
      · exact fun tc => completion_le
    simp only [instant_eq]
    rw [sends_succ, ← h_sends, hfinds]
    cases hf : finds cfg batches st (n + 1)
    · have hl : st.lockSet = false := by simp [finds] at hf; exact hf.1.1
      cases hp : cfg.polling
      · simp [wakes, hp]
      · -- the polling task is alive, and wakes exactly at the ticks
        have ha : st.pollAlive = true := by
          cases ha : st.pollAlive
          · simp [h_dead hp ha] at hl
          · rfl
        have : wakes cfg st (n + 1) = isTick cfg (n + 1) := by
          simp [wakes, hp, ha, (sched_step hi (h_alive hp ha)).1]
        rw [this]
        cases isTick cfg (n + 1) <;> simp
    · simp
  · -- `dead`: the polling task leaves its loop only when it finds the lock set
    simp only [instant_eq] at ha ⊢
    cases ha0 : st.pollAlive
    · simp [h_dead hp ha0]
    · simp only [ha0, Bool.true_and, Bool.not_eq_false', Bool.and_eq_true] at ha
      have := ha.2
      simp only [finds, Bool.or_eq_true, Bool.and_eq_true, decide_eq_true_eq] at this ⊢
      exact this.imp_right And.left
  · -- `alive`: it moved its next tick on if it woke, else kept it
    simp only [instant_eq, Bool.and_eq_true, Bool.not_eq_true', Bool.and_eq_false_iff] at ha ⊢
    obtain ⟨ha0, ha1⟩ := ha
    have hs := (sched_step hi (h_alive hp ha0)).2
    have hw : wakes cfg st (n + 1) = decide (n + 1 = st.nextTick) := by simp [wakes, hp, ha0]
    rw [hw] at ha1 ⊢
    by_cases he : n + 1 = st.nextTick
    · rw [ha1.resolve_left (by simp [he])]
      simpa [he] using hs
    · simpa [he] using hs

theorem inv_run (cfg : Cfg) (hd : 1 ≤ cfg.delay) (hi : 1 ≤ cfg.interval)
    (batches : List Batch) (hb : ∀ b ∈ batches, 1 ≤ b.1) (n : Nat) :
    Inv cfg batches n (run cfg batches n) := by
  induction n with
  | zero => exact inv_init cfg batches hb hd
  | succ n ih =>
    unfold run at ih ⊢
    rw [runFrom_succ, Nat.add_comm 1 n]
    exact inv_step hi ih

end Indi.Wait
