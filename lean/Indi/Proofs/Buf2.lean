/-
  Lemmas for C11b: resynchronisation after a corrupt prefix.  While the buffer starts inside the prefix nothing is
  found, so only the threshold moves it on (`processLoop_corrupt`); once past it, the rest of the session is a session
  on the valid stream from the empty buffer (`session_corrupt`).
-/
import Indi.Proofs.Buf

namespace Indi.Buf

variable {M : Type}

theorem findMessage_corrupt (parse : Str → ParseRes M) (c S : Str) (hc : Corrupt parse c)
    (P : Str) (hP : P <+: c ++ S) (i : Nat) (hi : i < c.length) :
    findMessage parse (P.drop i) = .nothing := by
  apply findMessage_nothing_of_prefixes
  intro k
  apply hc i hi
  have h1 : (P.drop i).take k <+: c.drop i ++ S := by
    have h2 : P.drop i <+: (c ++ S).drop i := by
      obtain ⟨u, hu⟩ := hP
      rw [← hu, List.drop_append]
      exact List.prefix_append _ _
    rw [List.drop_append_of_le_length (by omega)] at h2
    exact (List.take_prefix _ _).trans h2
  exact List.prefix_or_prefix_of_prefix h1 (List.prefix_append _ _)

/-- where the loop ends on data that starts inside the corrupt prefix `c` of what has arrived (`P`): nothing is
delivered and what is retained still starts inside `c`, or the loop gets past `c` and goes on with the clean-up of the
valid part -/
def Resync (parse : Str → ParseRes M) (tags : List Str) (t : Nat) (c P : Str) (r : List M × Str) : Prop :=
  (∃ j, j < c.length ∧ j ≤ P.length ∧ r = ([], P.drop j)) ∨
    (c.length ≤ P.length ∧ r = processLoop parse tags (some t) (cleanup tags (P.drop c.length)))

theorem processLoop_corrupt (parse : Str → ParseRes M) (tags : List Str) (t : Nat)
    (c S : Str) (hc : Corrupt parse c) (P : Str) (hP : P <+: c ++ S) :
    ∀ (d i : Nat), i + d = c.length → i ≤ P.length →
      Resync parse tags t c P (processLoop parse tags (some t) (cleanup tags (P.drop i))) := by
  intro d
  induction d with
  | zero =>
    intro i hi hiP
    rw [Nat.add_zero] at hi
    subst hi
    exact Or.inr ⟨hiP, rfl⟩
  | succ d ih =>
    intro i hi hiP
    rcases Nat.eq_or_lt_of_le hiP with rfl | hlt
    · exact Or.inl ⟨P.length, by omega, Nat.le_refl _, by rw [List.drop_length, cleanup_nil, processLoop_nil]⟩
    · have next := ih (i + 1) (by omega) hlt
      have stay : Resync parse tags t c P (processLoop parse tags (some t) (P.drop i)) := by
        have hf := findMessage_corrupt parse c S hc P hP i (by omega)
        by_cases hfit : (P.drop i).length ≤ t
        · exact Or.inl ⟨i, by omega, hiP, processLoop_keep parse tags (some t) _ hf hfit⟩
        · rw [processLoop_drop parse tags t _ hf (Nat.lt_of_not_le hfit), List.tail_drop]
          exact next
      have hd : P.drop i = P[i] :: P.drop (i + 1) := List.drop_eq_getElem_cons hlt
      rw [hd, cleanup_cons, ← hd]
      split
      · exact stay
      · split
        · exact stay
        · exact next

theorem feed_corrupt (parse : Str → ParseRes M) (tags : List Str) (t : Nat)
    (c S : Str) (hc : Corrupt parse c) (P q : Str) (hP : P ++ q <+: c ++ S)
    (i : Nat) (hi : i < c.length) (hiP : i ≤ P.length) :
    Resync parse tags t c (P ++ q) (feed parse tags (some t) (P.drop i) q) := by
  unfold feed process
  rw [← List.drop_append_of_le_length hiP]
  exact processLoop_corrupt parse tags t c S hc (P ++ q) hP (c.length - i) i (by omega)
    (by rw [List.length_append]; omega)

theorem session_corrupt (parse : Str → ParseRes M) (tags : List Str) (t : Nat)
    (hA1 : ParserNeedsOpener parse tags) (hA2 : TagsOk tags)
    (c : Str) (hc : Corrupt parse c)
    (segs : List (Seg M)) (final : Str) (hok : StreamOk2 parse tags (some t) segs final)
    (hlong : t < (encode segs final).length) :
    ∀ (pieces : List Str) (P : Str) (i : Nat), i < c.length → i ≤ P.length →
      (P.drop i).length ≤ t → P ++ pieces.flatten = c ++ encode segs final →
      (session parse tags (some t) (P.drop i) pieces).1.flatten = segs.map (·.msg) := by
  intro pieces
  induction pieces with
  | nil =>
    intro P i hi hiP hB hP
    exfalso
    simp only [List.flatten_nil, List.append_nil] at hP
    rw [hP, List.length_drop, List.length_append] at hB
    omega
  | cons q ps ih =>
    intro P i hi hiP hB hP
    rw [List.flatten_cons, ← List.append_assoc] at hP
    simp only [session, List.flatten_cons]
    rcases feed_corrupt parse tags t c (encode segs final) hc P q ⟨ps.flatten, hP⟩ i hi hiP with
      ⟨j, hj, hjP, hfeed⟩ | ⟨hcp, hfeed⟩
    · have hb : (feed parse tags (some t) (P.drop i) q).2.length ≤ t := processLoop_bounded parse tags t _
      rw [hfeed] at hb ⊢
      exact ih (P ++ q) j hj hjP hb hP
    · -- past the corrupt prefix: what follows is the session on the valid stream from the empty buffer, with the
      -- part of it received so far as its first piece
      have hx : ((P ++ q).drop c.length :: ps).flatten = encode segs final := by
        have := congrArg (List.drop c.length) hP
        rwa [List.drop_append_of_le_length hcp, List.drop_left] at this
      rw [hfeed]
      exact (session_whole parse tags (some t) hA1 hA2 final segs hok _ hx).1

end Indi.Buf
