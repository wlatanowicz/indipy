/-
  Leaf lemmas for the system-level statements: `int(str(n)) == n`, base64 text is ASCII and
  has no surrounding whitespace, `a2b_base64` returns bytes, the class of `oneBLOB` in the generated table
  (`findClass_oneBLOB`), a parsed `newBLOBVector` has a `format` on every child; and (namespace `Indi.Sys`, shared
  by C01, C06 and C08) what the receiver of a part reads (`wirePart`) and one `oneBLOB` part as either side builds and
  reads it.
-/
import Indi.Spec.Sys
import Indi.Proofs.B64
import Indi.Proofs.C03
import Indi.Proofs.Rows
import Indi.Proofs.DevA

namespace Indi.SysB64
open Indi Indi.Dev

theorem go_digits : ∀ (ds : Str) (b : Bool), (∀ c ∈ ds, pyIsDigit c = true) →
    (ds ≠ [] ∨ b = true) → Dev.pyInt.go ds b = some ds := by
  intro ds
  induction ds with
  | nil =>
    intro b _ h
    rcases h with h | h
    · exact absurd rfl h
    · subst h; rfl
  | cons c cs ih =>
    intro b hd _
    have hc : pyIsDigit c = true := hd c (by simp)
    have hcs : ∀ c ∈ cs, pyIsDigit c = true := fun x hx => hd x (by simp [hx])
    rw [Dev.pyInt.go.eq_def]
    simp only [hc, if_true]
    rw [ih true hcs (Or.inr rfl)]
    rfl

/-- what `pyInt` does with the sign and the rest -/
def body (neg : Bool) (b : Str) : Option Int :=
  match b with
  | [] => none
  | c :: _ =>
    if !pyIsDigit c then none else
    match Dev.pyInt.go b false with
    | some ds => some (if neg then -(Num.digitsVal ds : Int) else Num.digitsVal ds)
    | none => none

theorem pyInt_eq (x : Str) : Dev.pyInt x = body (Num.stripSign (pyStrip x)).1 (Num.stripSign (pyStrip x)).2 := by
  unfold Dev.pyInt Num.stripSign body
  rfl

theorem pyInt_digits (c : Char) (r : Str) (hall : Num.Digs (c :: r)) :
    Dev.pyInt (c :: r) = some ((Num.digitsVal (c :: r) : Nat) : Int) := by
  have hc := hall c (by simp)
  have hgo : Dev.pyInt.go (c :: r) false = some (c :: r) := go_digits (c :: r) false hall (Or.inl (by simp))
  rw [pyInt_eq, Num.pyStrip_noSpace hall.noSpace, Num.stripSign_other (fun _ h => (Num.digit_ne hc).2.1 (List.cons.inj h).1)
      (fun _ h => (Num.digit_ne hc).2.2.1 (List.cons.inj h).1)]
  simp only [body, hc, hgo]
  rfl

theorem pyInt_natStr (n : Nat) : Dev.pyInt (Dev.natStr n) = some (n : Int) := by
  unfold Dev.natStr
  have hd := (Num.natDigits_ads n).digs
  have hne := Num.natDigits_ne n
  have hv := Num.natDigits_val n
  match hp : Num.natDigits n, hd, hne, hv with
  | [], _, hne, _ => exact absurd rfl hne
  | c :: r, hd, _, hv => rw [pyInt_digits c r hd, hv]

theorem alphabet_facts : ∀ c ∈ B64.alphabet, pyIsSpace c = false ∧ c.toNat < 128 := by
  rw [B64.alphabet_eq]
  decide +kernel

theorem encode_facts (bs : List Nat) : ∀ c ∈ B64.encode bs, pyIsSpace c = false ∧ c.toNat < 128 := by
  intro c hc
  rcases B64.encode_chars bs c hc with hc | rfl
  · exact alphabet_facts c hc
  · decide +kernel

theorem isAscii_encode (bs : List Nat) : Dev.isAscii (B64.encode bs) = true := by
  unfold Dev.isAscii
  rw [List.all_eq_true]
  intro c hc
  simpa using (encode_facts bs c hc).2

theorem pyStrip_encode (bs : List Nat) : pyStrip (B64.encode bs) = B64.encode bs :=
  Num.pyStrip_noSpace fun c hc => (encode_facts bs c hc).1

theorem a2b_lt {c : Char} {v : Nat} (h : B64.a2b c = some v) : v < 64 := by
  unfold B64.a2b at h
  simp only [Bool.and_eq_true, decide_eq_true_eq] at h
  split at h
  · cases h; omega
  · split at h
    · cases h; omega
    · split at h
      · cases h; omega
      · split at h
        · cases h; omega
        · split at h
          · cases h; omega
          · cases h

/-- `leftchar` holds the bits of the quad not yet written out: 6, 4, 2 of them after 1, 2, 3 characters -/
abbrev Inv (st : B64.DecState) : Prop :=
  (∀ b ∈ st.outRev, b < 256) ∧ st.quadPos ≤ 3 ∧ (st.quadPos = 1 → st.leftchar < 64) ∧
  (st.quadPos = 2 → st.leftchar < 16) ∧ (st.quadPos = 3 → st.leftchar < 4)

theorem decodeLoop_bytes : ∀ (cs : Str) (st : B64.DecState) (bs : List Nat), Inv st →
    B64.decodeLoop st cs = .ok bs → ∀ b ∈ bs, b < 256 := by
  intro cs
  induction cs with
  | nil =>
    intro st bs hinv h
    rw [B64.decodeLoop] at h
    split at h
    · cases h
      intro b hb
      exact hinv.1 b (List.mem_reverse.1 hb)
    · split at h <;> cases h
  | cons c cs ih =>
    intro st bs hinv h
    obtain ⟨q, l, p, o⟩ := st
    obtain ⟨ho, hq, h1, h2, h3⟩ := hinv
    simp only at ho hq h1 h2 h3
    rw [B64.decodeLoop] at h
    split at h
    · split at h
      · split at h
        · -- `=`, the padding is complete: the bytes so far
          cases h
          intro b hb
          exact ho b (List.mem_reverse.1 hb)
        · -- `=`, counted
          exact ih _ bs ⟨ho, hq, h1, h2, h3⟩ h
      · -- `=`, ignored
        exact ih _ bs ⟨ho, hq, h1, h2, h3⟩ h
    · split at h
      · -- a character outside the alphabet is skipped
        exact ih _ bs ⟨ho, hq, h1, h2, h3⟩ h
      · rename_i v hv
        have hv64 := a2b_lt hv
        rcases q with _ | _ | _ | _ | q
        · -- quad position 0: six bits kept
          exact ih _ bs ⟨ho, by simp, fun _ => hv64, by simp, by simp⟩ h
        · -- position 1: a byte from the six bits kept and two new ones
          have : l < 64 := h1 rfl
          exact ih _ bs ⟨List.forall_mem_cons.2 ⟨by dsimp only; omega, ho⟩, by simp, by simp,
            fun _ => Nat.mod_lt _ (by omega), by simp⟩ h
        · -- position 2: four kept, four new
          have : l < 16 := h2 rfl
          exact ih _ bs ⟨List.forall_mem_cons.2 ⟨by dsimp only; omega, ho⟩, by simp, by simp, by simp,
            fun _ => Nat.mod_lt _ (by omega)⟩ h
        · -- position 3: two kept, six new
          have : l < 4 := h3 rfl
          exact ih _ bs ⟨List.forall_mem_cons.2 ⟨by dsimp only; omega, ho⟩, by simp, by simp, by simp, by simp⟩ h
        · -- position ≥ 4: excluded by `hq`
          omega

theorem decode_bytes (x : Str) (bs : List Nat) (h : B64.decode x = .ok bs) : ∀ b ∈ bs, b < 256 := by
  unfold B64.decode at h
  have hnil : ∀ b ∈ B64.initState.outRev, b < 256 := by
    intro b hb
    cases hb
  exact decodeLoop_bytes x B64.initState bs ⟨hnil, by decide, by decide, by decide, by decide⟩ h

open Indi.Spec.MsgValid

theorem _root_.Indi.Sys.findClass_oneBLOB :
    findClass (s "oneBLOB") Generated.registry.parts = some (Rows.clsOnePart .blob) :=
  Rows.findClass_onePart .blob (Rows.mem_kinds _)

theorem oneBLOB_format (fields : List (Str × Option Str)) (h : fieldsOk true (Rows.clsOnePart .blob) fields = true) :
    ((alookup (s "format") fields).getD none).isSome = true := by
  simp only [fieldsOk, scalarSpecs, Rows.clsOnePart, Rows.anyAttr, Bool.and_eq_true, beq_iff_eq] at h
  -- `fieldsOk true`: the keys are the four of the row, in its order (`hk`); every value passes its row (`hz`), and the
  -- row of `oneBLOB` requires `format`
  obtain ⟨hk, hz⟩ := h
  match fields, hk, hz with
  | [(k1, v1), (k2, v2), (k3, v3), (k4, v4)], hk, hz =>
    simp [s_inj] at hk
    obtain ⟨rfl, rfl, rfl, rfl⟩ := hk
    simp [fieldOk, s_inj] at hz
    simp [alookup, s_inj, hz]

theorem parsed_newBLOB_format (x : Elem) (m : Msg) (hp : fromXml Generated.registry x = .ok m)
    (ht : m.tag = s "newBLOBVector") :
    ∀ p ∈ m.children.getD [], ((alookup (s "format") p.fields).getD none).isSome = true := by
  obtain ⟨c, hc, _, _, _, hch⟩ := C03.valid_iff.1 (C03.msg_parsed_valid C03.regW_generated hp)
  rw [ht] at hc
  cases hc.symm.trans (Rows.findClass_newVec .blob (Rows.mem_kinds _) _ rfl)
  intro p hpm
  obtain ⟨hvp, htags⟩ := hch p hpm
  have htag : p.tag = s "oneBLOB" := by simpa using htags [s "oneBLOB"] (by decide +kernel)
  obtain ⟨c', hc', _, hf⟩ := C03.validPart_iff.1 hvp
  rw [htag, Sys.findClass_oneBLOB] at hc'
  cases hc'
  exact oneBLOB_format p.fields hf

end Indi.SysB64

namespace Indi.Sys
open Indi Indi.Dev Indi.Cli Indi.Spec.Sys Indi.Spec.Dev

/-- what the receiver of a part reads: the part itself (in-process) or what `from_xml ∘ to_xml` makes of it; the lemmas
about it are named `rdPart_*` (Proofs/SysView.lean) -/
def wirePart (inproc : Bool) (p : Part) : Part := if inproc then p else C03.canonPart p

theorem normVal_encode (bs : List Nat) :
    (normVal (some (B64.encode bs))).getD [] = B64.encode bs := by
  simp only [normVal, SysB64.pyStrip_encode bs]
  cases B64.encode bs <;> rfl

theorem canonVal_encode (bs : List Nat) :
    (C03.canonVal (some (B64.encode bs))).getD [] = B64.encode bs := by
  simp only [C03.canonVal, SysB64.pyStrip_encode bs]
  cases B64.encode bs <;> rfl

/-- the `oneBLOB` part both sides build for a byte string -/
def blobPart (name : Option Str) (bs : List Nat) (f : Option Str) : Part :=
  { tag := s "oneBLOB", fields := [(s "name", name), (s "value", some (B64.encode bs)),
      (s "size", some (natStr bs.length)), (s "format", f)] }

/-- `blobPart` as it is read after the wire: any text for the value, the size declared (`normPart_blobPart`,
`canonPart_blobPart`) -/
def blobPart' (name : Option Str) (v : Option Str) (n : Nat) (f : Option Str) : Part :=
  { tag := s "oneBLOB", fields := [(s "name", name), (s "value", v), (s "size", some (natStr n)), (s "format", f)] }

theorem blobFromPart_read (name v : Option Str) (bs : List Nat) (f : Option Str) (h : ∀ b ∈ bs, b < 256)
    (hv : v.getD [] = B64.encode bs) :
    blobFromPart (blobPart' name v bs.length f) = .ok (.blob bs f) := by
  simp [blobFromPart, blobPart', attr, alookup, s_inj, hv, SysB64.isAscii_encode bs, B64.decode_encode bs h, SysB64.pyInt_natStr]

theorem blobFromPart_read_any (name v : Option Str) (bs : List Nat) (f : Option Str)
    (hv : v.getD [] = B64.encode bs) :
    ∃ bs', blobFromPart (blobPart' name v bs.length f) = .ok (.blob bs' f) := by
  obtain ⟨bs', h1, h2⟩ := B64.decode_encode_len bs
  exact ⟨bs', by simp [blobFromPart, blobPart', attr, alookup, s_inj, hv, SysB64.isAscii_encode bs, h1, h2, SysB64.pyInt_natStr]⟩

theorem valueFromPart_read (name v : Option Str) (bs : List Nat) (f : Option Str) (h : ∀ b ∈ bs, b < 256)
    (hv : v.getD [] = B64.encode bs) :
    valueFromPart .blob (blobPart' name v bs.length f) = .ok (.blob bs f) := by
  have e1 := SysB64.isAscii_encode bs
  have e2 := B64.decode_encode bs h
  rw [← hv] at e1 e2
  cases v with
  | none =>
    simp only [Option.getD_none] at e1 e2
    simp [valueFromPart, blobPart', valueOf, alookup, s_inj, e1, e2, SysB64.pyInt_natStr]
  | some t =>
    simp only [Option.getD_some] at e1 e2
    simp [valueFromPart, blobPart', valueOf, alookup, s_inj, e1, e2, SysB64.pyInt_natStr]

theorem normPart_blobPart (name : Option Str) (bs : List Nat) (f : Option Str) :
    normPart (blobPart name bs f) = blobPart' name (normVal (some (B64.encode bs))) bs.length f := by
  simp [normPart, normFields, blobPart, blobPart', s_inj]

theorem canonPart_blobPart (name : Option Str) (bs : List Nat) (f : Option Str) :
    C03.canonPart (blobPart name bs f) = blobPart' name (C03.canonVal (some (B64.encode bs))) bs.length f := by
  simp [C03.canonPart, C03.canonFields, C03.cv, blobPart, blobPart', s_inj]

theorem onePart_blob (e : Dev.Elem) (bs : List Nat) (f : Option Str) (hv : readValue e = .blob bs f) :
    onePart .blob e = .ok (blobPart (some e.d.name) bs f) := by
  simp [onePart, hv, blobPart]

theorem newPart_blob (name : Option Str) (bs : List Nat) (f : Option Str) :
    newPart .blob name (.blob bs f) = some (blobPart name bs f) := rfl

theorem natStr_zero : natStr 0 = s "0" := by decide

def noneBlobPart (name : Option Str) : Part :=
  { tag := s "oneBLOB", fields := [(s "name", name), (s "value", none), (s "size", some (s "0")), (s "format", some [])] }

/-- the part a driver publishes for a BLOB element -/
def blobPartOf (e : Dev.Elem) : Part :=
  match readValue e with
  | .blob bs f => blobPart (some e.d.name) bs f
  | _ => noneBlobPart (some e.d.name)

/-- only a text or a number element can have a refreshing Read handler -/
theorem elemOk_blob_noRefresh {e : Dev.Elem} (h : elemOk .blob e = true) : e.d.refresh = none :=
  Option.eq_none_iff_forall_ne_some.2 fun _ hr => (elemOk_refresh h hr).2.elim nofun nofun

theorem readValue_blob {e : Dev.Elem} (h : elemOk .blob e = true) : readValue e = e.value := by
  rw [readValue, elemOk_blob_noRefresh h]

theorem onePart_blob_ok (e : Dev.Elem) (h : valueOk .blob (readValue e) = true) :
    onePart .blob e = .ok (blobPartOf e) := by
  unfold onePart blobPartOf
  cases hr : readValue e <;> simp_all [valueOk, blobPart, noneBlobPart]

end Indi.Sys
