/-
  C01, driver side: what stays fixed in a vector (`Static`), what a reader can tell apart (`Same`), good vectors
  under the reads that publishing makes, structural relations between two states of a device (`Rel`), and that the
  messages of good vectors are `Emitted`: the parser reads them back (`emitted_def`, `emitted_set'`).
-/
import Indi.Proofs.SysDefs

namespace Indi.SysP
open Indi Indi.Dev Indi.Cli Indi.Sys Indi.Spec.Sys Indi.Spec.Dev

/-- an element without its value: what the writes in scope leave alone -/
def core (e : Dev.Elem) : ElemDef × Bool := (e.d, e.enabled)

/-- an element as a reader finds it: with the value read (`readValue`), not the one stored -/
def tri (e : Dev.Elem) : ElemDef × Bool × Value := (e.d, e.enabled, readValue e)

/-- the same definition -/
def Static (v v' : Vec) : Prop :=
  v'.name = v.name ∧ v'.label = v.label ∧ v'.kind = v.kind ∧ v'.elems.map core = v.elems.map core

/-- indistinguishable for any reader: the values compared are the values as read -/
def Same (v v' : Vec) : Prop :=
  v'.name = v.name ∧ v'.label = v.label ∧ v'.kind = v.kind ∧ v'.state = v.state ∧ v'.enabled = v.enabled ∧
  v'.elems.map tri = v.elems.map tri

theorem Static.name {v v' : Vec} (h : Static v v') : v'.name = v.name := h.1
theorem Static.kind {v v' : Vec} (h : Static v v') : v'.kind = v.kind := h.2.2.1
theorem Static.elems {v v' : Vec} (h : Static v v') : v'.elems.map core = v.elems.map core := h.2.2.2

theorem Same.name {v v' : Vec} (h : Same v v') : v'.name = v.name := h.1
theorem Same.enabled {v v' : Vec} (h : Same v v') : v'.enabled = v.enabled := h.2.2.2.2.1

theorem Static.refl (v : Vec) : Static v v := ⟨rfl, rfl, rfl, rfl⟩
theorem Static.trans {a b c : Vec} (h : Static a b) (h' : Static b c) : Static a c :=
  ⟨h'.1.trans h.1, h'.2.1.trans h.2.1, h'.2.2.1.trans h.2.2.1, h'.2.2.2.trans h.2.2.2⟩
theorem Static.symm {a b : Vec} (h : Static a b) : Static b a :=
  ⟨h.1.symm, h.2.1.symm, h.2.2.1.symm, h.2.2.2.symm⟩

theorem Same.refl (v : Vec) : Same v v := ⟨rfl, rfl, rfl, rfl, rfl, rfl⟩
theorem Same.trans {a b c : Vec} (h : Same a b) (h' : Same b c) : Same a c :=
  ⟨h'.1.trans h.1, h'.2.1.trans h.2.1, h'.2.2.1.trans h.2.2.1, h'.2.2.2.1.trans h.2.2.2.1,
   h'.2.2.2.2.1.trans h.2.2.2.2.1, h'.2.2.2.2.2.trans h.2.2.2.2.2⟩

theorem Same.static {a b : Vec} (h : Same a b) : Static a b := by
  obtain ⟨h1, h2, h3, _, _, h6⟩ := h
  refine ⟨h1, h2, h3, ?_⟩
  have := congrArg (List.map fun (t : ElemDef × Bool × Value) => (t.1, t.2.1)) h6
  have hc : core = fun e => (e.d, e.enabled) := rfl
  rw [hc]
  simpa [List.map_map, Function.comp_def, tri] using this

theorem enabled_of_core (f : ElemDef → α) (l : List Dev.Elem) :
    (l.filter (·.enabled)).map (fun e => f e.d) = ((l.map core).filter (·.2)).map (fun c => f c.1) := by
  rw [List.filter_map, List.map_map]
  rfl

theorem enabled_of_tri (f : ElemDef → Value → α) (l : List Dev.Elem) :
    (l.filter (·.enabled)).map (fun e => f e.d (readValue e)) =
      ((l.map tri).filter (·.2.1)).map (fun c => f c.1 c.2.2) := by
  rw [List.filter_map, List.map_map]
  rfl

theorem Static.shape {g g' : Group} {v v' : Vec} (h : Static v v') (hg : g'.name = g.name) : ShapeEq g v g' v' := by
  obtain ⟨h1, h2, h3, h4⟩ := h
  refine ⟨hg, h1, h2, h3, ?_⟩
  unfold enabledElems
  rw [enabled_of_core (fun d => (d.name, d.label)), enabled_of_core (fun d => (d.name, d.label)), h4]

theorem Static.names {v v' : Vec} (h : Static v v') :
    (enabledElems v').map (·.d.name) = (enabledElems v).map (·.d.name) := by
  unfold enabledElems
  rw [enabled_of_core (fun d => d.name), enabled_of_core (fun d => d.name), h.elems]

theorem Same.vecEnabled {g g' : Group} {v v' : Vec} (h : Same v v') (hg : GEq g g') :
    vecEnabled g' v' = vecEnabled g v :=
  vecEnabled_of hg h.enabled

theorem Same.view {g g' : Group} {v v' : Vec} (h : Same v v') (hg : g'.name = g.name) : ViewEq g v g' v' := by
  obtain ⟨h1, h2, h3, h4, _, h6⟩ := h
  refine ⟨hg, h1, h2, h3, h4, ?_⟩
  unfold enabledElems
  have e : ∀ l : List Dev.Elem, (l.filter (·.enabled)).map elemView =
      ((l.map tri).filter (·.2.1)).map (fun c => (c.1.name, c.1.label, c.1.format, c.2.2)) :=
    fun l => enabled_of_tri (fun d x => (d.name, d.label, d.format, x)) l
  rw [e, e, h6]

theorem tri_afterRead (e : Dev.Elem) : tri (afterRead e) = tri e := by
  unfold tri afterRead readValue
  cases e.d.refresh <;> rfl

theorem same_refresh (v : Vec) : Same v (refreshVec v) := by
  refine ⟨rfl, rfl, rfl, rfl, rfl, ?_⟩
  simp only [refreshVec, List.map_map]
  apply List.map_congr_left
  intro e _
  simp only [Function.comp]
  split
  · exact tri_afterRead e
  · rfl

theorem same_refresh_if (g : Group) (v : Vec) : Same v (asgV3 g v) :=
  asgV3_ind (P := Same v) g (Same.refl v) (same_refresh v)

theorem same_refreshDef_if (g : Group) (v : Vec) : Same v (defV3 g v) :=
  defV3_ind (P := Same v) g (Same.refl v) (same_refresh v)

theorem bytesOk_nonblob {x : Value} (h : ∀ bs f, x ≠ .blob bs f) : bytesOk x = true := by
  cases x <;> first | rfl | exact absurd rfl (h _ _)

theorem VG.of_static {v v' : Vec} (h : VG v) (hs : Static v v') (hok : vecOk v' = true) (hf : DevB.vecFmt v' = true)
    (hb : vecBytes v' = true) : VG v' := by
  refine ⟨hok, hf, hb, decide_eq_true ?_⟩
  rw [hs.names]
  exact h.nodup

theorem VG.refresh {v : Vec} (h : VG v) : VG (refreshVec v) :=
  h.of_static (same_refresh v).static (vecOk_refresh h.ok) (DevB.vecGood_refresh h.good).2 (List.all_eq_true.2
    (refreshVec_values (Q := fun x => bytesOk x = true) (fun _ => bytesOk_nonblob) h.ok (List.all_eq_true.1 h.bytes)))

theorem VG.refresh_if {v : Vec} (h : VG v) (g : Group) : VG (asgV3 g v) := asgV3_ind g h h.refresh

theorem VG.refreshDef_if {v : Vec} (h : VG v) (g : Group) : VG (defV3 g v) := defV3_ind g h h.refresh

theorem VG.enabled {v : Vec} (h : VG v) (b : Bool) : VG { v with enabled := b } :=
  ⟨h.ok, h.fmt, h.bytes, h.names⟩

/-- structural relation between two states of a device: the same positions (`getVec`); corresponding vectors related by
`R`, which sees their groups too.  `Dev.DevRel` fixes the groups' flags and lengths and relates vectors only; here the
group may change, as its flag does in `enableGroup` -/
def Rel (R : Nat → Nat → Group → Vec → Group → Vec → Prop) (d d' : Device) : Prop :=
  d'.name = d.name ∧ (∀ gi vi, getVec d gi vi = none → getVec d' gi vi = none) ∧
  ∀ gi vi g v, getVec d gi vi = some (g, v) → ∃ g' v', getVec d' gi vi = some (g', v') ∧ R gi vi g v g' v'

theorem Rel.name {R} {d d' : Device} (h : Rel R d d') : d'.name = d.name := h.1

protected theorem Rel.none {R} {d d' : Device} (h : Rel R d d') {gi vi : Nat} (hn : getVec d gi vi = none) :
    getVec d' gi vi = none := h.2.1 gi vi hn

protected theorem Rel.some {R} {d d' : Device} (h : Rel R d d') {gi vi : Nat} {g : Group} {v : Vec}
    (hg : getVec d gi vi = some (g, v)) : ∃ g' v', getVec d' gi vi = some (g', v') ∧ R gi vi g v g' v' :=
  h.2.2 gi vi g v hg

theorem Rel.refl {R} (hr : ∀ gi vi g v, R gi vi g v g v) (d : Device) : Rel R d d :=
  ⟨rfl, fun _ _ h => h, fun gi vi g v h => ⟨g, v, h, hr gi vi g v⟩⟩

theorem Rel.trans {R S T} (ht : ∀ gi vi g v g' v' g'' v'', R gi vi g v g' v' → S gi vi g' v' g'' v'' → T gi vi g v g'' v'')
    {d d' d'' : Device} (h : Rel R d d') (h' : Rel S d' d'') : Rel T d d'' := by
  refine ⟨h'.name.trans h.name, fun gi vi hn => h'.none (h.none hn), ?_⟩
  intro gi vi g v hg
  obtain ⟨g', v', hg', hr⟩ := h.some hg
  obtain ⟨g'', v'', hg'', hs⟩ := h'.some hg'
  exact ⟨g'', v'', hg'', ht _ _ _ _ _ _ _ _ hr hs⟩

theorem Rel.mono {R S} (hrs : ∀ gi vi g v g' v', R gi vi g v g' v' → S gi vi g v g' v') {d d' : Device}
    (h : Rel R d d') : Rel S d d' := by
  refine ⟨h.name, fun _ _ => h.none, ?_⟩
  intro gi vi g v hg
  obtain ⟨g', v', hg', hr⟩ := h.some hg
  exact ⟨g', v', hg', hrs _ _ _ _ _ _ hr⟩

theorem rel_setVec {R} {d : Device} {gi vi : Nat} {g : Group} {v : Vec} (v' : Vec) (h : getVec d gi vi = some (g, v))
    (hv : ∀ g', GEq g g' → R gi vi g v g' v')
    (hr : ∀ gj vj g0 v0 g1, getVec d gj vj = some (g0, v0) → ¬(gi = gj ∧ vi = vj) → GEq g0 g1 → R gj vj g0 v0 g1 v0) :
    Rel R d (setVec d gi vi v') := by
  refine ⟨rfl, fun gj vj hn => by rw [getVec_setVec, hn], fun gj vj g0 v0 h0 => ?_⟩
  rw [getVec_setVec, h0]
  refine ⟨_, _, rfl, ?_⟩
  by_cases hc : gi = gj ∧ vi = vj
  · obtain ⟨rfl, rfl⟩ := hc
    cases h.symm.trans h0
    rw [if_pos rfl, if_pos ⟨rfl, rfl⟩]
    exact hv _ ⟨rfl, rfl⟩
  · rw [if_neg hc]
    exact hr gj vj g0 v0 _ h0 hc (by split <;> exact ⟨rfl, rfl⟩)

theorem getVec_setVec_self {d : Device} {gi vi : Nat} {g : Group} {v : Vec} (v' : Vec) (h : getVec d gi vi = some (g, v)) :
    ∃ g', getVec (setVec d gi vi v') gi vi = some (g', v') ∧ GEq g g' :=
  ⟨_, getVec_setVec_same h, rfl, rfl⟩

theorem Rel.back {R} {d d' : Device} (h : Rel R d d') {gi vi : Nat} {g' : Group} {v' : Vec}
    (hg' : getVec d' gi vi = some (g', v')) : ∃ g v, getVec d gi vi = some (g, v) ∧ R gi vi g v g' v' := by
  cases h0 : getVec d gi vi with
  | none => rw [h.none h0] at hg'; cases hg'
  | some gv =>
    obtain ⟨g, v⟩ := gv
    obtain ⟨g'', v'', hg'', hr⟩ := h.some h0
    rw [hg''] at hg'
    simp only [Option.some.injEq, Prod.mk.injEq] at hg'
    obtain ⟨rfl, rfl⟩ := hg'
    exact ⟨g, v, rfl, hr⟩

theorem setMsg_ok (dn : Str) (g : Group) {v : Vec} (h : vecOk v = true) : ∃ mo, setMsg dn g v = .ok mo := by
  unfold setMsg
  split
  · exact ⟨_, rfl⟩
  · obtain ⟨ps, hps⟩ := mapParts_ok (f := onePart v.kind) (es := v.elems)
      (fun e he => onePart_ok (vecOk_elems h e he))
    simp only [hps]
    exact ⟨_, rfl⟩

theorem wire_of_fromXml {m : Msg} (h : fromXml reg (toXml m) = .ok (C03.canon m)) : wire reg m = some (C03.canon m) := by
  unfold wire; rw [h]

theorem emitted_def {dn : Str} {g : Group} {v : Vec} {m : Msg} (hok : vecOk v = true) (h : defMsg dn g v = .ok m) :
    Emitted m := by
  refine ⟨wire_of_fromXml (SysWire.wire_def hok h), ?_⟩
  intro ht
  by_cases hen : vecEnabled g v = true
  · obtain ⟨_, _, htag, _⟩ := defMsg_enabled h hen
    rw [htag] at ht
    exact absurd ht (def_tag_ne_del _)
  · simp only [Bool.not_eq_true] at hen
    rw [defMsg_disabled h hen]
    simp [delMsg, attr, alookup, s]

/-- the general form (`emitted_set` is its case for a `VG` vector): a format is asked of the enabled elements only, which
is all that `worldOk08` gives (C08) -/
theorem emitted_set' {dn : Str} {g : Group} {v : Vec} {m : Msg} (hok : vecOk v = true)
    (hfmt : ∀ e ∈ v.elems, e.enabled = true → DevB.hasFormat e.value = true) (h : setMsg dn g v = .ok (some m)) :
    Emitted m := by
  refine ⟨wire_of_fromXml (C03.msg_canon C03.regW_generated (DevB.setMsg_valid hok hfmt h)), fun ht => ?_⟩
  obtain ⟨_, _, _, htag, _⟩ := setMsg_some h
  rw [htag] at ht
  exact absurd ht (set_tag_ne_del _)

theorem emitted_set {dn : Str} {g : Group} {v : Vec} {m : Msg} (hg : VG v) (h : setMsg dn g v = .ok (some m)) :
    Emitted m :=
  emitted_set' hg.ok (fun e he _ => List.all_eq_true.1 hg.fmt e he) h

theorem AMsg.transport {dn g1 v1 g' v' m} (h : AMsg dn g1 v1 m) (hg : GEq g1 g') (hs : Same v1 v') : AMsg dn g' v' m := by
  have hen : vecEnabled g' v' = vecEnabled g1 v1 := hs.vecEnabled hg
  have hv : ViewEq g1 v1 g' v' := hs.view hg.1
  rcases h with ⟨h1, h2⟩ | ⟨h1, h2⟩
  · left
    refine ⟨hen.trans h1, ?_⟩
    rcases h2 with h2 | h2
    · exact Or.inl (h2.transport hv)
    · exact Or.inr (h2.transport hv)
  · right
    exact ⟨hen.trans h1, by rw [hs.name]; exact h2⟩

theorem AHead.transport {dn g1 v1 g' v' m} (h : AHead dn g1 v1 m) (hg : GEq g1 g') (hs : Same v1 v') : AHead dn g' v' m := by
  have hen : vecEnabled g' v' = vecEnabled g1 v1 := hs.vecEnabled hg
  have hv : ViewEq g1 v1 g' v' := hs.view hg.1
  rcases h with ⟨h1, h2⟩ | ⟨h1, h2⟩
  · exact Or.inl ⟨hen.trans h1, h2.transport hv⟩
  · exact Or.inr ⟨hen.trans h1, by rw [hs.name]; exact h2⟩

theorem IsDef.emitted {dn g' v' m} (h : IsDef dn g' v' m) : Emitted m := by
  obtain ⟨g, v, h1, _, h3, _⟩ := h
  exact emitted_def h3.ok h1

theorem IsSetS.emitted {dn g' v' m} (h : IsSetS dn g' v' m) : Emitted m := by
  obtain ⟨g, v, h1, h3, _⟩ := h
  exact emitted_set h3 h1

theorem emitted_delMsg (dn vn : Str) : Emitted (delMsg dn vn) :=
  emitted_def (v := offVec vn) rfl (defMsg_offVec dn ⟨[], false, []⟩ vn)

theorem AMsg.emitted {dn g' v' m} (h : AMsg dn g' v' m) : Emitted m := by
  rcases h with ⟨_, h | h⟩ | ⟨_, rfl⟩
  · exact h.emitted
  · exact h.toS.emitted
  · exact emitted_delMsg _ _

end Indi.SysP
