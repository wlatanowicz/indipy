/-
  Character-level round trip of the library's own writer: `serElem` is `layElem` of a layout (`libLay`), so the
  parser automaton reads what it writes back as the very same element, and no proper prefix of it is a document.
-/
import Indi.Proofs.XmlLay
namespace Indi.Xml
open Indi Doc

theorem escAttrChar_esc (c : Char) (h : xmlChar c = true) : Esc (plainAttr '"') c (escAttrChar c) :=
  .ite (s "amp") (by decide +kernel) fun n1 =>
  .ite (s "lt") (by decide +kernel) fun n2 =>
  .ite (s "gt") (by decide +kernel) fun _ =>
  .ite (s "quot") (by decide +kernel) fun n4 =>
  .ite (s "#13") (by decide +kernel) fun n5 =>
  .ite (s "#10") (by decide +kernel) fun n6 =>
  .ite (s "#09") (by decide +kernel) fun n7 =>
  iteInduction (fun _ => .ref _ ⟨rfl, refTo_charRef c h⟩) fun _ => .inl ⟨rfl, n4, n2, n1, n5, n6, n7⟩

theorem escTextChar_esc (c : Char) (h : xmlChar c = true) (hr : c ≠ '\r') : Esc plainText c (escTextChar c) :=
  .ite (s "amp") (by decide +kernel) fun n1 =>
  .ite (s "lt") (by decide +kernel) fun n2 =>
  .ite (s "gt") (by decide +kernel) fun n3 =>
  iteInduction (fun _ => .ref _ ⟨rfl, refTo_charRef c h⟩) fun _ => .inl ⟨rfl, n2, n1, hr, n3⟩

theorem run_escText (t : Str) (h : textOk t = true) (br : Nat) : ∃ br', ReadsText br (escText t) t br' := by
  induction t generalizing br with
  | nil => exact ⟨br, .nil br⟩
  | cons c cs ih =>
    obtain ⟨h1, h2, h3⟩ := textOk_cons c cs h
    obtain ⟨b2, e2⟩ := ih h3 _
    exact ⟨b2, (run_text_esc c h1 _ (escTextChar_esc c h1 h2) br).append e2⟩

theorem noLt_escText (t : Str) (h : textOk t = true) : noLt (escText t) = true :=
  noLt_flatMap _ _ fun c hc =>
    have ⟨h1, h2⟩ := (textOk_iff t).mp h c hc
    noLt_esc (fun _ hp => hp.1) c _ (escTextChar_esc c h1 h2)

def libLay : Lay := { escA := escAttrChar, escT := escText, emptyLead := [' '] }

theorem libLay_ok : libLay.Ok where
  style := by decide
  emptyLead := by decide
  escA := escAttrChar_esc
  escT t h := run_escText t h 0
  escT_noLt := noLt_escText

theorem Doc.s_emptyTag : s " />" = [' ', '/', '>'] := by decide

theorem spelled_default (e : Elem) : spelled {} e = e := by
  cases e
  simp [spelled, ordered]

theorem layAttr_lib : layAttr libLay = serAttr := by
  funext kv
  simp [layAttr, serAttr, libLay, quoteOf, escAttr]

theorem serElem1_eq_lay (c : Elem1) : serElem1 c = layElem1 libLay c := by
  simp only [serElem1, layElem1, layNode, layBody, layAttr_lib, ordered, spellEnd]
  simp [libLay, serAttrs]
  split <;> simp [s_emptyTag]

theorem serElem_eq_lay (e : Elem) : serElem e = layElem libLay e := by
  have hk : layKids libLay e.children = e.children.flatMap serElem1 := by
    simp only [layKids, ← serElem1_eq_lay]
    simp [libLay]
  rw [layElem, layNode, layBody, layKids_isEmpty, hk]
  simp only [serElem, layAttr_lib, ordered, spellEnd]
  simp [libLay, serAttrs]
  split <;> simp [s_emptyTag]

theorem run_serElem (e : Elem) (h : elemOk e = true) (st : St)
    (hmode : st.mode = .misc ∨ st.mode = .start) (hstack : st.stack = []) (hdone : st.done = none) :
    run st (serElem e) = { mode := .misc, stack := [], done := some e, cr := false } := by
  rw [serElem_eq_lay, run_layElem libLay_ok e h st hmode hstack hdone]
  exact congrArg (fun x => (⟨.misc, [], some x, false⟩ : St)) (spelled_default e)

theorem parseDoc_serElem (e : Elem) (h : elemOk e = true) : parseDoc (serElem e) = .ok e := by
  rw [serElem_eq_lay, parseDoc_layElem libLay_ok e h]
  exact congrArg Res.ok (spelled_default e)

/-- `pre`, `post`: for instance the XML declaration and the newline `to_string` writes -/
theorem parseDoc_wrapped (e : Elem) (h : elemOk e = true) (pre post : Str)
    (hpre : run init pre = { mode := .misc, stack := [], done := none, cr := false }) (hpost : post.all isS = true) :
    parseDoc (pre ++ serElem e ++ post) = .ok e := by
  rw [serElem_eq_lay, parseDoc_lay libLay_ok e h pre post hpre hpost]
  exact congrArg Res.ok (spelled_default e)

theorem parseDoc_prefix (e : Elem) (h : elemOk e = true) (k : Nat) (hk : k < (serElem e).length) (e' : Elem) :
    parseDoc ((serElem e).take k) ≠ .ok e' := by
  rw [serElem_eq_lay] at hk ⊢
  exact parseDoc_lay_take libLay_ok e h k hk e'

end Indi.Xml
