/-
  One-step facts about the parser automaton, proved once by case analysis over every mode (`step_trans`):
  how a step can change `done` and the tags on the stack, and how the modes `.lt` / `.tagName` are entered.
-/
import Indi.Proofs.XmlTok

namespace Indi.Xml.Doc

def Dead (st : St) : Prop := st.mode = .err ∨ st.mode = .uns

theorem run_dead (st : St) (x : Str) (h : Dead st) : run st x = st :=
  run_fixed st x fun c _ => by rcases h with h | h <;> simp [step, h]

def tags (st : St) : List Str := st.stack.map (·.tag)

@[simp] theorem emit_done (st : St) (d : Str) : (st.emit d).done = st.done := by
  unfold St.emit; (repeat' split) <;> rfl
@[simp] theorem emit_tags (st : St) (d : Str) : (st.emit d).stack.map (·.tag) = st.stack.map (·.tag) := by
  unfold St.emit; split
  · rfl
  · split <;> simp_all

theorem close_mode (st : St) : st.close.mode = .err ∨ st.close.mode = .misc ∨ st.close.mode = .text 0 := by
  unfold St.close; (repeat' split) <;> simp [St.fail]
@[simp] theorem close_mode_lt (st : St) (b : Bool) : (st.close.mode = .lt b) = False := by
  rcases close_mode st with h | h | h <;> simp [h]
@[simp] theorem close_mode_tagName (st : St) (acc : Str) : (st.close.mode = .tagName acc) = False := by
  rcases close_mode st with h | h | h <;> simp [h]

/-- What a step from `st` on `c` to `st'` can do, in three conjuncts.  Mode `.lt` is entered only on `<`.  Mode
`.tagName acc` is entered from `.lt` with `acc = [c]`, and only while no root is finished, or it extends the name read
so far by `c`.  On `done` and the tags of the stack the step has one of three effects: none; an element opens (the name
held by `.tagName` becomes the innermost tag, `done` unchanged); the innermost element closes (`st' = st.close`). -/
def Trans (st : St) (c : Char) (st' : St) : Prop :=
  (∀ b, st'.mode = .lt b → c = '<') ∧
  (∀ acc, st'.mode = .tagName acc →
    (∃ b, st.mode = .lt b ∧ acc = [c] ∧ st.done = none) ∨ (∃ acc', st.mode = .tagName acc' ∧ acc = c :: acc')) ∧
  ((st'.done = st.done ∧ tags st' = tags st) ∨
   (∃ acc, st.mode = .tagName acc ∧ st'.done = st.done ∧ tags st' = acc.reverse :: tags st) ∨
   st' = st.close)

/- `iteInduction` descends through `stepMode`'s chains of `if`s with one unification per `if`; `split` would
generalise and re-check the whole goal each time (four times the cost of everything else here). -/
theorem step_trans (st : St) (c : Char) : Trans st c (step st c) := by
  obtain ⟨mode, stack, done, cr⟩ := st
  cases mode <;> simp only [step, stepMode, St.fail, St.unsup, St.resume, St.addAttr, St.openTag] <;>
    (repeat' (apply iteInduction <;> intro _)) <;> (repeat' split) <;> simp [Trans, tags] <;> simp_all

end Indi.Xml.Doc
