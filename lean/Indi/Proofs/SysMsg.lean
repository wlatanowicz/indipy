/-
  C01, shared by the driver side and the client side: the form of the messages a driver builds for a vector (`defMsg`,
  `setMsg`): tags and how the client classifies them, the property they address, their parts; they depend on the group
  through its name and flag only (`GEq`).
-/
import Indi.Proofs.Str
import Indi.Proofs.SysCli
import Indi.Proofs.SysList
import Indi.Proofs.DevA

namespace Indi.SysP
open Indi Indi.Dev Indi.Cli Indi.Sys Indi.Spec.Sys Indi.Spec.Dev

attribute [local simp] s_inj

theorem defKind_def (k : Kind) : defKind (s ("def" ++ kindName k ++ "Vector")) = some (vkind k) := by
  cases k <;> simp [defKind, kindName, vkind]

theorem defKind_set (k : Kind) : defKind (s ("set" ++ kindName k ++ "Vector")) = none := by
  cases k <;> simp [defKind, kindName]

theorem setKind_set (k : Kind) : setKind (s ("set" ++ kindName k ++ "Vector")) = some (vkind k) := by
  cases k <;> simp [setKind, kindName, vkind]

theorem classify_del : defKind (s "delProperty") = none ∧ setKind (s "delProperty") = none := by
  simp [defKind, setKind]

theorem classify_setBLOB : defKind (s "setBLOBVector") = none ∧ setKind (s "setBLOBVector") = some .blob := by
  simp [defKind, setKind]

theorem def_tag_ne_del (k : Kind) : s ("def" ++ kindName k ++ "Vector") ≠ s "delProperty" := fun h => by
  have := defKind_def k; rw [h, classify_del.1] at this; cases this

theorem set_tag_ne_del (k : Kind) : s ("set" ++ kindName k ++ "Vector") ≠ s "delProperty" := fun h => by
  have := setKind_set k; rw [h, classify_del.2] at this; cases this

theorem isSetBlob_def (k : Kind) (m : Msg) (h : m.tag = s ("def" ++ kindName k ++ "Vector")) :
    isSetBlob m = false := by
  unfold isSetBlob; rw [h]
  exact decide_eq_false fun e => by have := defKind_def k; rw [e, classify_setBLOB.1] at this; cases this

theorem isSetBlob_set (k : Kind) (m : Msg) (h : m.tag = s ("set" ++ kindName k ++ "Vector")) :
    isSetBlob m = decide (k = .blob) := by
  unfold isSetBlob; rw [h]
  by_cases hk : k = .blob
  · subst hk; simp [kindName]
  · rw [decide_eq_false hk]
    refine decide_eq_false fun e => hk ?_
    have := setKind_set k
    rw [e, classify_setBLOB.2] at this
    cases k <;> first | rfl | cases this

def delMsg (dn vn : Str) : Msg :=
  { tag := s "delProperty",
    fields := [(s "device", some dn), (s "name", some vn), (s "timestamp", some stamp), (s "message", none)],
    children := none }

theorem defMsg_disabled {dn : Str} {g : Group} {v : Vec} {m : Msg} (h : defMsg dn g v = .ok m)
    (hen : vecEnabled g v = false) : m = delMsg dn v.name := by
  unfold defMsg at h
  simp only [hen, Bool.not_false, if_true, Except.ok.injEq] at h
  exact h.symm

/-- a disabled vector of that name: whatever the group, its `defMsg` is the deletion -/
def offVec (vn : Str) : Vec :=
  { name := vn, label := [], kind := .light, perm := none, timeout := none, rule := none, state := s "Idle",
    enabled := false, elems := [] }

theorem defMsg_offVec (dn : Str) (g : Group) (vn : Str) : defMsg dn g (offVec vn) = .ok (delMsg dn vn) := rfl

theorem defMsg_enabled {dn : Str} {g : Group} {v : Vec} {m : Msg} (h : defMsg dn g v = .ok m)
    (hen : vecEnabled g v = true) :
    ∃ ps, mapParts (defPart v.kind) v.elems = .ok ps ∧ m.tag = s ("def" ++ kindName v.kind ++ "Vector") ∧
      m.children = some ps ∧ attr m.fields "device" = some dn ∧ attr m.fields "name" = some v.name ∧
      attr m.fields "state" = some v.state ∧ attr m.fields "label" = some v.label ∧
      attr m.fields "group" = some g.name := by
  unfold defMsg at h
  simp only [hen, Bool.not_true, Bool.false_eq_true, if_false] at h
  cases hps : mapParts (defPart v.kind) v.elems with
  | error x => rw [hps] at h; cases h
  | ok ps =>
    rw [hps] at h
    simp only [Except.ok.injEq] at h
    subst h
    refine ⟨ps, rfl, rfl, rfl, ?_⟩
    cases v.kind <;> simp [attr, alookup]

theorem setMsg_some {dn : Str} {g : Group} {v : Vec} {m : Msg} (h : setMsg dn g v = .ok (some m)) :
    vecEnabled g v = true ∧
    ∃ ps, mapParts (onePart v.kind) v.elems = .ok ps ∧ m.tag = s ("set" ++ kindName v.kind ++ "Vector") ∧
      m.children = some ps ∧ attr m.fields "device" = some dn ∧ attr m.fields "name" = some v.name ∧
      attr m.fields "state" = some v.state := by
  unfold setMsg at h
  by_cases hen : vecEnabled g v = true
  · simp only [hen, Bool.not_true, Bool.false_eq_true, if_false] at h
    refine ⟨hen, ?_⟩
    cases hps : mapParts (onePart v.kind) v.elems with
    | error x => rw [hps] at h; cases h
    | ok ps =>
      rw [hps] at h
      simp only [Except.ok.injEq, Option.some.injEq] at h
      subst h
      refine ⟨ps, rfl, rfl, rfl, ?_⟩
      simp [attr, alookup]
  · simp only [Bool.not_eq_true] at hen
    simp [hen] at h

theorem setMsg_none_iff {dn : Str} {g : Group} {v : Vec} (h : setMsg dn g v = .ok none) : vecEnabled g v = false := by
  unfold setMsg at h
  by_cases hen : vecEnabled g v = true
  · simp only [hen, Bool.not_true, Bool.false_eq_true, if_false] at h
    cases hps : mapParts (onePart v.kind) v.elems with
    | error x => rw [hps] at h; cases h
    | ok ps => rw [hps] at h; cases h
  · simpa using hen

theorem key_delMsg (dn vn : Str) : key (delMsg dn vn) = (some dn, some vn) := by
  simp [key, delMsg, attr, alookup]

theorem isSetBlob_delMsg (dn vn : Str) : isSetBlob (delMsg dn vn) = false := by
  simp [isSetBlob, delMsg]

theorem isSetBlob_of_def {dn g v m} (h : defMsg dn g v = .ok m) : isSetBlob m = false := by
  by_cases hen : vecEnabled g v = true
  · obtain ⟨_, _, htag, _⟩ := defMsg_enabled h hen
    exact isSetBlob_def _ _ htag
  · simp only [Bool.not_eq_true] at hen
    rw [defMsg_disabled h hen]
    exact isSetBlob_delMsg _ _

theorem isSetBlob_of_set {dn g v m} (h : setMsg dn g v = .ok (some m)) : isSetBlob m = decide (v.kind = .blob) := by
  obtain ⟨_, _, _, htag, _⟩ := setMsg_some h
  exact isSetBlob_set _ _ htag

theorem key_def {dn : Str} {g : Group} {v : Vec} {m : Msg} (h : defMsg dn g v = .ok m) :
    key m = (some dn, some v.name) := by
  by_cases hen : vecEnabled g v = true
  · obtain ⟨_, _, _, _, h1, h2, _⟩ := defMsg_enabled h hen
    simp [key, h1, h2]
  · simp only [Bool.not_eq_true] at hen
    rw [defMsg_disabled h hen]
    exact key_delMsg _ _

theorem key_set {dn : Str} {g : Group} {v : Vec} {m : Msg} (h : setMsg dn g v = .ok (some m)) :
    key m = (some dn, some v.name) := by
  obtain ⟨_, _, _, _, _, h1, h2, _⟩ := setMsg_some h
  simp [key, h1, h2]

def GEq (g g' : Group) : Prop := g'.name = g.name ∧ g'.enabled = g.enabled

theorem GEq.refl (g : Group) : GEq g g := ⟨rfl, rfl⟩
theorem GEq.trans {a b c : Group} (h : GEq a b) (h' : GEq b c) : GEq a c := ⟨h'.1.trans h.1, h'.2.trans h.2⟩

theorem setMsg_group (dn : Str) {g g' : Group} (v : Vec) (h : GEq g g') : setMsg dn g' v = setMsg dn g v :=
  Dev.setMsg_group dn v h.2

theorem defMsg_group (dn : Str) {g g' : Group} (v : Vec) (h : GEq g g') : defMsg dn g' v = defMsg dn g v :=
  Dev.defMsg_group dn v h.1 h.2

theorem vecEnabled_group {g g' : Group} (v : Vec) (h : GEq g g') : vecEnabled g' v = vecEnabled g v :=
  Dev.vecEnabled_group v h.2

theorem vecEnabled_of {g g' : Group} {v v' : Vec} (hg : GEq g g') (he : v'.enabled = v.enabled) :
    vecEnabled g' v' = vecEnabled g v := by
  unfold vecEnabled; rw [hg.2, he]

theorem mapParts_forall₂ {f : Dev.Elem → Except Dev.Exc Part} :
    ∀ {es : List Dev.Elem} {ps : List Part}, mapParts f es = .ok ps →
      List.Forall₂ (fun e p => f e = .ok p) (es.filter (·.enabled)) ps
  | es, ps, h => by
    have := mapParts_ok_iff.1 h
    rwa [← List.forall₂_eq_eq_eq, List.forall₂_map_left_iff, List.forall₂_map_right_iff] at this

theorem wireText_text {k : Kind} (hk : k ≠ .blob) (hn : k ≠ .number) (fmt : Str) (t : Str) :
    wireText k fmt (.text t) = some (normVal (some t)) := by
  cases k <;> first | rfl | exact absurd rfl hk

theorem wireText_none {k : Kind} (hk : k ≠ .blob) (fmt : Str) : wireText k fmt .none = some none := by
  cases k <;> first | rfl | exact absurd rfl hk

theorem renderNum_wireText {fmt : Str} {v : Value} {t : Option Str} (h : renderNum fmt v = .ok t) :
    wireText .number fmt v = some (normVal t) := by
  unfold renderNum at h
  cases v with
  | none => simp only [Rendered.ok.injEq] at h; subst h; rfl
  | num x i =>
    simp only at h
    cases hq : Num.numToStr Num.exactIEEE fmt (preRound fmt i x) with
    | ok t' =>
      rw [hq] at h
      simp only [Rendered.ok.injEq] at h
      subst h
      simp [wireText, hq]
    | valueError => rw [hq] at h; cases h
    | assertionError => rw [hq] at h; cases h
    | unsupported => rw [hq] at h; cases h
  | text _ => cases h
  | blob _ _ => cases h
  | other => cases h

theorem rawText_wire {k : Kind} (hk : k ≠ .blob) {fmt : Str} {v : Value} {t : Option Str} (h : rawText k fmt v = .ok t) :
    wireText k fmt v = some (normVal t) := by
  unfold rawText at h
  cases k
  case blob => exact absurd rfl hk
  case number =>
    simp only at h
    cases hr : renderNum fmt v with
    | ok t' => rw [hr] at h; cases h; exact renderNum_wireText hr
    | fail x => rw [hr] at h; cases h
  all_goals (cases v <;> cases h <;> rfl)

theorem onePart_spec {k : Kind} (hk : k ≠ .blob) {e : Dev.Elem} {p : Part} (h : onePart k e = .ok p) :
    attr p.fields "name" = some e.d.name ∧
    wireText k e.d.format (readValue e) = some (normVal (attr p.fields "value")) := by
  rw [onePart_eq hk] at h
  cases ht : rawText k e.d.format (readValue e) with
  | error x => rw [ht] at h; cases h
  | ok t => rw [ht] at h; cases h; exact ⟨by simp [attr, alookup], by simpa [attr, alookup] using rawText_wire hk ht⟩

theorem defPart_spec {k : Kind} {e : Dev.Elem} {p : Part} (h : defPart k e = .ok p) :
    attr p.fields "name" = some e.d.name ∧ attr p.fields "label" = some e.d.label ∧
    (k ≠ .blob → wireText k e.d.format (readValue e) = some (normVal (attr p.fields "value"))) ∧
    (k = .blob → attr p.fields "value" = none) := by
  by_cases hk : k = .blob
  · subst hk; cases h; simp [attr, alookup]
  · rw [defPart_eq hk] at h
    cases ht : rawText k e.d.format (readValue e) with
    | error x => rw [ht] at h; cases h
    | ok t =>
      rw [ht] at h; cases h
      exact ⟨by simp [attr, alookup], by simp [attr, alookup], fun _ => by simpa [attr, alookup] using rawText_wire hk ht,
        fun h => absurd h hk⟩

end Indi.SysP
