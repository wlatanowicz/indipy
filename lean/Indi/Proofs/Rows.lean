/-
  The rows of the regenerated class table that the messages of a vector are checked against, by kind.

  Each `cls*` is the class the table holds under its tag, written once with the kind as a parameter; one kernel
  evaluation per family ties it to `Generated.registry` (`findClass_*`), so a change of the table that matters shows
  up there.  A validity check then runs on one small row and is generic in the kind (`row_simp`).
-/
import Indi.Spec.MsgValid
import Indi.Generated.Registry
import Indi.Proofs.Str

namespace Indi.Rows
open Indi.Dev Indi.Spec.Dev Indi.Spec.MsgValid

abbrev kinds : List Kind := [.text, .number, .switch, .light, .blob]

theorem mem_kinds (k : Kind) : k ∈ kinds := by cases k <;> simp

def anyAttr (a : Str) : FieldSpec := ⟨a, some a, .any⟩

def vocAttr (a : Str) (vals : List Str) : FieldSpec := ⟨a, some a, .oneOf (vals.map some)⟩

/-- what the part classes of a kind, `def*` and `one*` alike, demand of `value` -/
def valGuard : Kind → Guard
  | .number => .number
  | .switch => .oneOf [some (s "On"), some (s "Off")]
  | .light => .oneOf (states.map some)
  | _ => .any

/-- the attributes a `defNumber` has beyond name, value and label -/
def extraAttrs : Kind → List Str
  | .number => [s "format", s "min", s "max", s "step"]
  | _ => []

/-- `def<Kind>` -/
def clsDefPart (k : Kind) : ClassSpec :=
  ⟨s ("def" ++ kindName k), true, false, false, s "name" :: extraAttrs k,
   anyAttr (s "name") :: ⟨s "value", some (s "value"), valGuard k⟩ :: anyAttr (s "label") :: (extraAttrs k).map anyAttr⟩

/-- `one<Kind>` -/
def clsOnePart : Kind → ClassSpec
  | .blob => ⟨s "oneBLOB", true, false, false, [s "name", s "size", s "format", s "value"],
      [anyAttr (s "name"), anyAttr (s "value"), anyAttr (s "size"), anyAttr (s "format")]⟩
  | k => ⟨s ("one" ++ kindName k), true, false, false, [s "name", s "value"],
      [anyAttr (s "name"), ⟨s "value", some (s "value"), valGuard k⟩]⟩

/-- the attributes only a writable vector has, `perm` and `timeout`, and a switch vector's `rule` -/
def writable : Kind → List FieldSpec
  | .light => []
  | .switch => [vocAttr (s "perm") perms, anyAttr (s "timeout"),
      ⟨s "rule", some (s "rule"), .oneOf [some (s "OneOfMany"), some (s "AtMostOne"), some (s "AnyOfMany")]⟩]
  | _ => [vocAttr (s "perm") perms, anyAttr (s "timeout")]

/-- `def<Kind>Vector` -/
def clsDefVec (k : Kind) : ClassSpec :=
  ⟨s ("def" ++ kindName k ++ "Vector"), true, false, true,
   (match k with | .light => [] | .switch => [s "rule", s "perm"] | _ => [s "perm"]) ++ [s "device", s "name", s "state"],
   [anyAttr (s "device"), anyAttr (s "name"), vocAttr (s "state") states, anyAttr (s "label"), anyAttr (s "group"),
    anyAttr (s "timestamp"), anyAttr (s "message"),
    ⟨s "children", some (s "children"), .children [s ("def" ++ kindName k)]⟩] ++ writable k⟩

/-- `set<Kind>Vector` -/
def clsSetVec (k : Kind) : ClassSpec :=
  ⟨s ("set" ++ kindName k ++ "Vector"), true, false, true, [s "device", s "name", s "state"],
   [anyAttr (s "device"), anyAttr (s "name"), vocAttr (s "state") states, anyAttr (s "timeout"),
    anyAttr (s "timestamp"), anyAttr (s "message"),
    ⟨s "children", some (s "children"), .children [s ("one" ++ kindName k)]⟩]⟩

/-- `new<Kind>Vector`, under the tag the driver model has for it (`newTag`: none for lights) -/
def clsNewVec (tag : Str) (k : Kind) : ClassSpec :=
  ⟨tag, true, true, false, [s "device", s "name"],
   [anyAttr (s "device"), anyAttr (s "name"), anyAttr (s "timestamp"),
    ⟨s "children", some (s "children"), .children [s ("one" ++ kindName k)]⟩]⟩

def clsDel : ClassSpec :=
  ⟨s "delProperty", true, false, true, [s "device"],
   [anyAttr (s "device"), anyAttr (s "name"), anyAttr (s "timestamp"), anyAttr (s "message")]⟩

theorem findClass_defPart : ∀ k ∈ kinds,
    findClass (s ("def" ++ kindName k)) Generated.registry.parts = some (clsDefPart k) := by
  decide +kernel

theorem findClass_onePart : ∀ k ∈ kinds,
    findClass (s ("one" ++ kindName k)) Generated.registry.parts = some (clsOnePart k) := by
  decide +kernel

theorem findClass_defVec : ∀ k ∈ kinds,
    findClass (s ("def" ++ kindName k ++ "Vector")) Generated.registry.messages = some (clsDefVec k) := by
  decide +kernel

theorem findClass_setVec : ∀ k ∈ kinds,
    findClass (s ("set" ++ kindName k ++ "Vector")) Generated.registry.messages = some (clsSetVec k) := by
  decide +kernel

theorem findClass_newVec : ∀ k ∈ kinds, ∀ tag ∈ newTag k,
    findClass tag Generated.registry.messages = some (clsNewVec tag k) := by
  decide +kernel

theorem findClass_del : findClass (s "delProperty") Generated.registry.messages = some clsDel := by
  decide +kernel

theorem guardOk_any (v : Option Str) : guardOk .any v = true := rfl

theorem guardOk_voc {vals : List Str} {t : Str} (h : vals.contains t = true) :
    guardOk (.oneOf (vals.map some)) (some t) = true := by
  simpa [guardOk] using h

/-- Evaluates the specification's field check `fieldsOk` on a row of the table.  The caller passes, as simp lemmas,
the row's definition, the facts `guardOk g v = true` for the values whose guard `g` is not `any` and, where the row
depends on the kind, what is known of the kind. -/
macro "row_simp" " [" ts:Lean.Parser.Tactic.simpLemma,* "]" : tactic =>
  `(tactic| simp [fieldsOk, scalarSpecs, fieldOk, childTagsOf, guardOk_any, s_inj, anyAttr, vocAttr, $ts,*])

end Indi.Rows
