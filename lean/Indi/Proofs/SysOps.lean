/-
  C01, driver side: what a driver operation publishes, per property (`DevBatch`), for every operation in scope.
-/
import Indi.Proofs.SysWrite
import Indi.Proofs.SysAnn
import Indi.Proofs.SysBatch
import Indi.Properties.DevA

namespace Indi.SysP
open Indi Indi.Dev Indi.Cli Indi.Sys Indi.Spec.Sys Indi.Spec.Dev

/-- `hE` as in `WRun.sum`, the definition the run starts with being that of the vector at `(gi, vi)` in `d` -/
theorem DevBatch.of_wrunAt {E : Vec → Vec → Prop} {d d' : Device} {gi vi : Nat} {ms : List Msg}
    (hok : DevOK d) (hwf' : WF d' = true) (h : WRunAt E d gi vi ms d')
    (hE : ∀ v v1, E v v1 → VG v → (∀ g0 v0, getVec d gi vi = some (g0, v0) → Static v0 v) →
      VG v1 ∧ Static v v1 ∧ v1.enabled = v.enabled) : DevBatch d ms d' := by
  rcases h with ⟨rfl, rfl⟩ | ⟨g, v, v', hg, hr, rfl⟩
  · exact DevBatch.refl hok
  obtain ⟨i1, hst, hen, hmsgs, hquiet, hlast⟩ :=
    hr.sum (v0 := v) (fun w w1 he hw hs => hE w w1 he hw fun _ _ h0 => by cases hg.symm.trans h0; exact hs)
      (hok.allVG _ _ _ _ hg) (Static.refl v)
  have hkey : ∀ m ∈ ms, key m = (some d.name, some v.name) := fun m hm => by
    obtain ⟨_, v2, k1, _, k3⟩ := hmsgs m hm
    rw [key_set k1, k3.name]
  have hrel : Rel (fun _ _ g0 v0 g' v' => v'.name = v0.name ∧ KeyCase d.name g0 v0 g' v' ms) d (setVec d gi vi v') := by
    refine rel_setVec v' hg (fun g' hge => ⟨hst.name, ?_⟩) fun gj vj g0 v0 g1 hg0 hidx hge => ⟨rfl, .nothing
      (List.filter_eq_nil_iff.2 fun m hm hk => hidx ?_) (vecEnabled_of hge rfl) fun _ => (Same.refl _).view hge.1⟩
    · by_cases hms : ms = []
      · subst hms
        exact .nothing rfl (vecEnabled_of hge hen) fun he => (hquiet rfl he).view hge.1
      · have hall : atKey d.name v'.name ms = ms :=
          List.filter_eq_self.2 fun m hm => by rw [hkey m hm, hst.name]; simp
        obtain ⟨m0, hm0⟩ := List.exists_mem_of_ne_nil _ hms
        have hen0 := (hmsgs m0 hm0).1
        refine .updated (by rw [vecEnabled_of hge hen]; exact hen0) hen0 (hst.shape hge.1) (fun m hm => ?_) ?_
        · obtain ⟨_, v2, k1, k2, k3⟩ := hmsgs m (hall ▸ hm)
          exact ⟨g, v2, k1, k2, (k3.symm.trans hst).shape hge.1⟩
        · obtain ⟨m, v2, k1, k2, k3, k4⟩ := hlast hms
          exact ⟨m, hall.symm ▸ k1, g, v2, k2, k3, k4.view hge.1⟩
    · -- properties have distinct names
      rw [hkey m hm] at hk
      exact names_inj (WF_namesDistinct hok.1) hg hg0 (by simpa using hk)
  refine ⟨rfl, ⟨hwf', all_setVec (P := fun _ _ => VG) hok.allVG i1⟩, fun m hm => ?_, fun _ _ => hrel.none, fun _ _ _ _ => hrel.some⟩
  obtain ⟨_, v2, k1, k2, _⟩ := hmsgs m hm
  obtain ⟨g', hg', _⟩ := getVec_setVec_self v' hg
  exact ⟨emitted_set k2 k1, gi, vi, g', v', hg', by rw [hkey m hm, hst.name]⟩

/-- `hpre`: the peers saw `d0`; the announcing state `d` differs from it only at the positions of `L` (in flags: a
vector's for `enableVec`, a group's for `enableGroup`, every group's for the first handshake, against `off`), where the
announcement says everything anew, so that only the names need agree there -/
theorem DevBatch.of_asum {d0 d d' : Device} {L : List (Nat × Nat)} {ms : List Msg} (hok : AllVG d)
    (hwf' : WF d' = true)
    (hpre : Rel (fun gj vj g0 v0 g v => v.name = v0.name ∧ ((gj, vj) ∉ L → GEq g0 g ∧ v = v0)) d0 d)
    (h : ASum d L ms d') : DevBatch d0 ms d' := by
  have hname : d.name = d0.name := hpre.name
  have hvg' : AllVG d' := h.allVG hok
  have hA : ∀ gj vj g' v', getVec d' gj vj = some (g', v') → ∀ m ∈ atKey d0.name v'.name ms,
      AMsg d0.name g' v' m ∧ (gj, vj) ∈ L := by
    intro gj vj g' v' hg' m hm
    obtain ⟨hm, hk⟩ := mem_atKey.1 hm
    obtain ⟨gi, vi, g2, v2, hL, hg2, ham⟩ := h.msgs m hm
    rw [ham.key, hname] at hk
    simp only [Prod.mk.injEq, Option.some.injEq, true_and] at hk
    obtain ⟨rfl, rfl⟩ := names_inj (WF_namesDistinct hwf') hg2 hg' hk
    rw [hg'] at hg2
    cases hg2
    exact ⟨hname ▸ ham, hL⟩
  refine ⟨h.rel.name.trans hname, ⟨hwf', hvg'⟩, ?_, fun _ _ hn => h.rel.none (hpre.none hn), ?_⟩
  · intro m hm
    obtain ⟨gi, vi, g', v', _, hg', ham⟩ := h.msgs m hm
    exact ⟨ham.emitted, gi, vi, g', v', hg', by rw [ham.key, hname]⟩
  · intro gj vj g0 v0 hg0
    obtain ⟨g, v, hg, hn1, hout⟩ := hpre.some hg0
    obtain ⟨g', v', hg', hge, hsame, _⟩ := h.rel.some hg
    have hall := fun m hm => (hA gj vj g' v' hg' m hm).1
    refine ⟨g', v', hg', hsame.name.trans hn1, ?_⟩
    by_cases hL : (gj, vj) ∈ L
    · obtain ⟨m0, hm0, hh0⟩ := h.cover gj vj g' v' hL hg'
      rw [hname] at hh0
      have hm0E : m0 ∈ atKey d0.name v'.name ms := mem_atKey.2 ⟨hm0, hh0.msg.key⟩
      by_cases hen : vecEnabled g' v' = true
      · exact .announced hen (fun m hm => (AMsg.enabled_iff hen).1 (hall m hm))
          ⟨m0, hm0E, (AHead.enabled_iff hen).1 hh0⟩
      · simp only [Bool.not_eq_true] at hen
        exact .deleted hen (List.ne_nil_of_mem hm0E) fun m hm => (AMsg.disabled_iff hen).1 (hall m hm)
    · obtain ⟨hge0, rfl⟩ := hout hL
      exact .nothing (List.eq_nil_iff_forall_not_mem.2 fun m hm => hL (hA gj vj g' v' hg' m hm).2)
        (hsame.vecEnabled (hge0.trans hge)) fun _ => hsame.view (hge0.trans hge).1

/-- driver-side operations in scope, with values that are proper BLOBs -/
def devOpOk : Dev.Op → Bool
  | .assign _ v => DevB.hasFormat v && bytesOk v
  | .setValue _ v => DevB.hasFormat v && bytesOk v
  | .enableElem _ _ => false
  | .client _ => false
  | _ => true

theorem enableVec_batch {d : Device} (hok : DevOK d) (gi vi : Nat) (b : Bool)
    (hwf' : WF (enableVec d gi vi b).dev = true) : DevBatch d (enableVec d gi vi b).msgs (enableVec d gi vi b).dev := by
  unfold enableVec at hwf' ⊢
  cases hg : getVec d gi vi with
  | none => exact DevBatch.refl hok
  | some gv =>
    obtain ⟨g, v⟩ := gv
    rw [hg] at hwf'
    have hd1 : AllVG (setVec d gi vi { v with enabled := b }) :=
      all_setVec (P := fun _ _ => VG) hok.allVG ((hok.allVG _ _ _ _ hg).enabled b)
    refine DevBatch.of_asum (L := [(gi, vi)]) hd1 hwf' ?_ (announce_asum hd1 gi vi).1
    exact rel_setVec _ hg (fun _ _ => ⟨rfl, fun hnot => absurd (List.mem_singleton.2 rfl) hnot⟩)
      fun _ _ _ _ _ _ _ hge => ⟨rfl, fun _ => ⟨hge, rfl⟩⟩

theorem enableGroup_batch {d : Device} (hok : DevOK d) (gi : Nat) (b : Bool)
    (hwf' : WF (enableGroup d gi b).dev = true) : DevBatch d (enableGroup d gi b).msgs (enableGroup d gi b).dev := by
  unfold enableGroup at hwf' ⊢
  cases hg : d.groups[gi]? with
  | none => exact DevBatch.refl hok
  | some g =>
    rw [hg] at hwf'
    have hget := getVec_setGroup b hg
    have hd1 : AllVG { d with groups := d.groups.set gi { g with enabled := b } } :=
      all_setGroup (P := fun _ _ => VG) b hg hok.allVG
    refine DevBatch.of_asum hd1 hwf' ⟨rfl, ?_, ?_⟩ (announceAll_asum gi (List.range g.vecs.length) _ hd1)
    · intro gj vj hn
      rw [hget, hn]; rfl
    · intro gj vj g0 v0 h0
      rw [hget, h0]
      refine ⟨_, _, rfl, rfl, fun hnot => ?_⟩
      by_cases hij : gi = gj
      · subst hij
        obtain ⟨h1, h2⟩ := getVec_eq_some.1 h0
        rw [hg] at h1
        cases h1
        exact (hnot (List.mem_map.2 ⟨vj, List.mem_range.2 (List.getElem?_eq_some_iff.1 h2).1, rfl⟩)).elim
      · simp only [hij, if_false]
        exact ⟨GEq.refl _, trivial⟩

theorem sendDefs_batch {d : Device} (hok : DevOK d) (L : List (Nat × Nat)) (hwf' : WF (sendDefs d L).dev = true) :
    DevBatch d (sendDefs d L).msgs (sendDefs d L).dev :=
  DevBatch.of_asum hok.allVG hwf' (Rel.refl (fun _ _ g _ => ⟨rfl, fun _ => ⟨GEq.refl g, rfl⟩⟩) d)
    (sendDefs_asum L d hok.allVG)

theorem fromClient_batch {d : Device} (hok : DevOK d) (m : Msg) (hfmt : opFormats (.client m) = true) :
    DevBatch d (fromClient d m).msgs (fromClient d m).dev := by
  have hwf' := step_wf d hok.1 (.client m)
  simp only [Dev.step] at hwf'
  rcases fromClient_cases d m with ⟨L, h⟩ | ⟨n, gi, vi, g, v, _, _, _, hg, htag, h⟩ | h <;> rw [h] at hwf' ⊢
  · exact sendDefs_batch hok _ hwf'
  · have hps : v.kind = .blob → ∀ p ∈ m.children.getD [], DevB.fmtPresent p = true := fun hk => by
      rw [hk] at htag
      simp only [newTag, Option.some.injEq] at htag
      exact DevB.opFormats_client.1 hfmt htag.symm
    exact DevBatch.of_wrunAt hok hwf' (applyChildren_wrun gi vi _ d) fun w w1 hw hvg hst =>
      hw.vg hvg fun hk => hps ((hst g v hg).kind ▸ hk)
  · exact DevBatch.refl hok

theorem step_batch {d : Device} (hok : DevOK d) (op : Dev.Op) (h : devOpOk op = true) :
    DevBatch d (Dev.step d op).msgs (Dev.step d op).dev := by
  have hwf' := step_wf d hok.1 op
  cases op with
  | assign a v =>
    simp only [devOpOk, Bool.and_eq_true] at h
    exact DevBatch.of_wrunAt hok hwf' (assign_wrun d a v) fun _ _ hs hv _ => hs.2.vg hv h.1 h.2
  | setValue a v =>
    simp only [devOpOk, Bool.and_eq_true] at h
    exact DevBatch.of_wrunAt hok hwf' (setValue_wrun d a v) fun _ _ hs hv _ => hs.2.vg hv h.1 h.2
  | state g v st =>
    exact DevBatch.of_wrunAt hok hwf' (setState_wrun d g v st) fun _ _ hs hv _ => hs.vg hv
  | enableVec g v b => exact enableVec_batch hok g v b hwf'
  | enableGroup g b => exact enableGroup_batch hok g b hwf'
  | enableElem a b => cases h
  | client m => cases h

end Indi.SysP
