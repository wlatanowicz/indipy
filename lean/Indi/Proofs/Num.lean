/-
  C10, rendering: the shape of what `render` produces (`render_shape`), and the rational arithmetic of
  the error bounds.  The grammar and its three readers are in Proofs/NumText.lean.  At the end: what C07
  needs of C10 (`DevBNum.numToStr_numberOk`).
-/
import Indi.Proofs.NumText
import Mathlib.Tactic.Linarith
import Mathlib.Tactic.Ring

namespace Indi.Num
open Indi Indi.Spec.Num

theorem absR_eq_abs (x : Rat) : absR x = |x| := by
  unfold absR; split
  · rw [abs_of_neg ‹_›]
  · rw [abs_of_nonneg (not_lt.mp ‹_›)]

theorem absR_le {x b : Rat} : absR x ≤ b ↔ (-b ≤ x ∧ x ≤ b) := by rw [absR_eq_abs]; exact abs_le
theorem absR_lt {x b : Rat} : absR x < b ↔ (-b < x ∧ x < b) := by rw [absR_eq_abs]; exact abs_lt
theorem absR_nonneg (x : Rat) : 0 ≤ absR x := by rw [absR_eq_abs]; exact abs_nonneg x
theorem absR_neg (a : Rat) : absR (-a) = absR a := by rw [absR_eq_abs, absR_eq_abs, abs_neg]
theorem absR_of_nonneg {a : Rat} (h : 0 ≤ a) : absR a = a := by rw [absR_eq_abs, abs_of_nonneg h]
theorem absR_of_neg {a : Rat} (h : a < 0) : absR a = -a := by rw [absR_eq_abs, abs_of_neg h]

theorem ratAbs_eq (x : Rat) : ratAbs x = absR x := rfl

theorem rhe_cases (r : Rat) :
    (rhe r = r.floor ∧ r - r.floor ≤ 1 / 2) ∨ (rhe r = r.floor + 1 ∧ 1 / 2 ≤ r - r.floor) := by
  unfold rhe
  simp only
  split
  · exact .inl ⟨rfl, le_of_lt ‹_›⟩
  · split
    · exact .inr ⟨rfl, le_of_lt ‹_›⟩
    · have h : r - r.floor = 1 / 2 := le_antisymm (not_lt.mp ‹_›) (not_lt.mp ‹_›)
      split
      · exact .inl ⟨rfl, h.le⟩
      · exact .inr ⟨rfl, h.ge⟩

theorem rhe_bounds (r : Rat) : (rhe r : Rat) - r ≤ 1/2 ∧ r - (rhe r : Rat) ≤ 1/2 := by
  have h1 := Rat.floor_le r
  have h2 := Rat.lt_floor_add_one r
  push_cast at h2
  rcases rhe_cases r with ⟨e, h⟩ | ⟨e, h⟩ <;> rw [e] <;> push_cast <;> constructor <;> linarith

theorem rhe_nonneg {r : Rat} (h : 0 ≤ r) : 0 ≤ rhe r := by
  have h0 : (0 : Int) ≤ r.floor := Rat.le_floor_iff.mpr (by simpa using h)
  rcases rhe_cases r with ⟨e, _⟩ | ⟨e, _⟩ <;> omega

theorem NoSpace_single {c : Char} (h : pyIsSpace c = false) : NoSpace [c] :=
  NoSpace_cons.mpr ⟨h, NoSpace_nil⟩
theorem NoSpace_dot : NoSpace ['.'] := NoSpace_single dot_facts.2.2
theorem NoSpace_colon : NoSpace [':'] := NoSpace_single (by decide +kernel)
theorem NoSpace_minus : NoSpace ['-'] := NoSpace_single (by decide +kernel)
theorem NoSpace_plus : NoSpace ['+'] := NoSpace_single (by decide +kernel)

theorem padField_strip (fl : Flags) (width : Nat) {sp sg body : Str} (hsp : AllSp sp) (hsg : NoSpace sg)
    (hb : NoSpace body) :
    ∃ k, pyStrip (padField fl width (sp ++ sg) body) = sg ++ (List.replicate k '0' ++ body) := by
  unfold padField
  simp only
  generalize width - ((sp ++ sg).length + body.length) = n
  have pad : ∀ {p m q : Str}, AllSp p → NoSpace m → AllSp q → pyStrip (p ++ m ++ q) = m :=
    fun hp hm hq => pyStrip_pad hp.blank hq.blank hm.trimmed
  split
  · exact ⟨0, by simpa using pad hsp (hsg.append hb) AllSp_nil⟩
  · split
    · exact ⟨0, by simpa using pad hsp (hsg.append hb) (AllSp_replicate n)⟩
    · split
      · exact ⟨n, by simpa using pad hsp (hsg.append ((ADs_replicate n).noSpace.append hb)) AllSp_nil⟩
      · exact ⟨0, by simpa using pad ((AllSp_replicate n).append hsp) (hsg.append hb) AllSp_nil⟩

theorem signStr_split (fl : Flags) (neg : Bool) : ∃ sp sg, signStr fl neg = sp ++ sg ∧ AllSp sp ∧ NoSpace sg ∧
    (sg = [] ∨ sg = ['-'] ∨ sg = ['+']) ∧ (sg = ['-'] ↔ neg = true) := by
  unfold signStr
  split
  · rename_i h; exact ⟨[], ['-'], rfl, AllSp_nil, NoSpace_minus, by simp, by simp [h]⟩
  · rename_i h
    split
    · exact ⟨[], ['+'], rfl, AllSp_nil, NoSpace_plus, by simp, by simp [h]⟩
    · split
      · exact ⟨[' '], [], rfl, by intro _ hc; simpa using hc, NoSpace_nil, by simp, by simp [h]⟩
      · exact ⟨[], [], rfl, AllSp_nil, NoSpace_nil, by simp, by simp [h]⟩

theorem Shape.int_eq {body n m} (h : Shape body (some n) m) : m = (n : Rat) := by
  cases h; rfl

theorem Shape.cast {body i m m'} (h : Shape body i m) (e : m = m') : Shape body i m' := e ▸ h

/-- an optional fractional part as `num_to_str` writes it, and its value -/
inductive Frac : Str → Rat → Prop
  | nil : Frac [] 0
  | dot (f : Str) (hf : ADs f) : Frac ('.' :: f) ((digitsVal f : Rat) / (10 : Rat) ^ f.length)

theorem Frac.noSpace {t v} (h : Frac t v) : NoSpace t := by
  cases h with
  | nil => exact NoSpace_nil
  | dot f hf => exact NoSpace_dot.append hf.noSpace

theorem Frac.shape {t fv} (h : Frac t fv) {ds : Str} (hds : ADs ds) (hne : ds ≠ []) (k : Nat) :
    ∃ i, Shape (List.replicate k '0' ++ ds ++ t) i ((digitsVal ds : Rat) + fv) := by
  have hd : ADs (List.replicate k '0' ++ ds) := (ADs_replicate k).append hds
  have hdne : List.replicate k '0' ++ ds ≠ [] := by simp [hne]
  have hval : digitsVal (List.replicate k '0' ++ ds) = digitsVal ds := digitsVal_zeros_append k ds
  cases h with
  | nil =>
    refine ⟨some (digitsVal (List.replicate k '0' ++ ds)), ?_⟩
    rw [List.append_nil]
    exact (Shape.int _ hd.digs hdne).cast (by rw [hval]; simp)
  | dot f hf =>
    exact ⟨_, (Shape.dec _ f hd.digs hf.digs (Or.inl hdne)).cast (by rw [decimalVal, hval])⟩

theorem printf_shape (fl : Flags) (width : Nat) (neg : Bool) {ds tl : Str} {fv : Rat} (hds : ADs ds) (hne : ds ≠ [])
    (htl : Frac tl fv) :
    ∃ sg body i, (sg = [] ∨ sg = ['-'] ∨ sg = ['+']) ∧ (sg = ['-'] ↔ neg = true) ∧
      pyStrip (padField fl width (signStr fl neg) (ds ++ tl)) = sg ++ body ∧ NoSpace (sg ++ body) ∧
      Shape body i ((digitsVal ds : Rat) + fv) := by
  obtain ⟨sp, sg, hsplit, hsp, hsgn, hsg, hneg⟩ := signStr_split fl neg
  obtain ⟨k, hk⟩ := padField_strip fl width hsp hsgn (hds.noSpace.append htl.noSpace)
  obtain ⟨i, hs⟩ := htl.shape hds hne k
  refine ⟨sg, _, i, hsg, hneg, by rw [hsplit, hk, ← List.append_assoc (List.replicate k '0')], ?_, hs⟩
  exact hsgn.append (((ADs_replicate k).noSpace.append hds.noSpace).append htl.noSpace)

theorem Frac.lf {t fv} (h : Frac t fv) (hne : t ≠ ['.']) {n : Nat} (hn : n < 100) :
    ∃ a b, padDigits 2 n = [a, b] ∧ pyIsDigit a = true ∧ pyIsDigit b = true ∧ LF a b t ((n : Rat) + fv) := by
  obtain ⟨a, b, hab, ha, hb, hv⟩ := padDigits2 hn
  refine ⟨a, b, hab, ha, hb, ?_⟩
  cases h with
  | nil => rw [← hv, add_zero]; exact .plain
  | dot f hf => rw [← hv]; exact .frac f hf.digs (by rintro rfl; exact hne rfl)

/-- the two-field sexagesimal form `w:mm`, `t` an optional fraction of the last field -/
theorem shape_wm (w : Nat) {mm : Nat} (hmm : mm < 100) {t fv} (ht : Frac t fv) (hne : t ≠ ['.']) :
    Shape (natDigits w ++ [':'] ++ padDigits 2 mm ++ t) none ((w : Rat) + ((mm : Rat) + fv) / 60) ∧
    NoSpace (natDigits w ++ [':'] ++ padDigits 2 mm ++ t) := by
  obtain ⟨a, b, hab, ha, hb, hlf⟩ := ht.lf hne hmm
  refine ⟨?_, (((natDigits_ads w).noSpace.append NoSpace_colon).append (padDigits_ads 2 mm).noSpace).append ht.noSpace⟩
  rw [hab]
  simp only [List.append_assoc, List.cons_append, List.nil_append]
  exact (Shape.s2 _ ':' a b t _ (natDigits_ads w).digs (natDigits_ne w) (by decide) ha hb hlf).cast
    (by rw [natDigits_val])

/-- the three-field sexagesimal form `w:mm:ss`, `t` an optional fraction of the last field -/
theorem shape_wms (w : Nat) {mm ss : Nat} (hmm : mm < 100) (hss : ss < 100) {t fv} (ht : Frac t fv) (hne : t ≠ ['.']) :
    Shape (natDigits w ++ [':'] ++ padDigits 2 mm ++ [':'] ++ padDigits 2 ss ++ t) none
      ((w : Rat) + (mm : Rat) / 60 + ((ss : Rat) + fv) / 3600) ∧
    NoSpace (natDigits w ++ [':'] ++ padDigits 2 mm ++ [':'] ++ padDigits 2 ss ++ t) := by
  obtain ⟨a, b, hab, ha, hb, hv⟩ := padDigits2 hmm
  obtain ⟨a2, b2, hab2, ha2, hb2, hlf⟩ := ht.lf hne hss
  refine ⟨?_, (((((natDigits_ads w).noSpace.append NoSpace_colon).append (padDigits_ads 2 mm).noSpace).append
    NoSpace_colon).append (padDigits_ads 2 ss).noSpace).append ht.noSpace⟩
  rw [hab, hab2]
  simp only [List.append_assoc, List.cons_append, List.nil_append]
  exact (Shape.s3 _ ':' a b ':' a2 b2 t _ (natDigits_ads w).digs (natDigits_ne w) (by decide) ha hb (by decide)
    ha2 hb2 hlf).cast (by rw [natDigits_val, hv])

theorem Frac.natDigits1 {n : Nat} (h : n < 10) : Frac ('.' :: natDigits n) ((n : Rat) / 10) := by
  have := Frac.dot _ (natDigits_ads n)
  rwa [natDigits_val, natDigits_len1 h, pow_one] at this

theorem Frac.padDigits2 {n : Nat} (h : n < 100) : Frac ('.' :: padDigits 2 n) ((n : Rat) / 100) := by
  have := Frac.dot _ (padDigits_ads 2 n)
  rwa [padDigits_val, padDigits_len (by omega) (by omega : n < 10 ^ 2), show ((10 : Rat) ^ 2 = 100) by norm_num] at this

theorem sexaBase_cases {frac base : Nat} (h : sexaBase frac = some base) :
    (frac = 3 ∧ base = 60) ∨ (frac = 5 ∧ base = 600) ∨ (frac = 6 ∧ base = 3600) ∨
    (frac = 8 ∧ base = 36000) ∨ (frac = 9 ∧ base = 360000) := by
  obtain ⟨kv, hkv, rfl⟩ := Option.map_eq_some_iff.mp h
  have hk : kv.1 = frac := by simpa using List.find?_some hkv
  have hmem := List.mem_of_find?_eq_some hkv
  subst hk
  simp only [Generated.sexaBases, List.mem_cons, List.not_mem_nil, or_false] at hmem
  rcases hmem with rfl | rfl | rfl | rfl | rfl <;> simp

theorem sexaFields_shape {frac base : Nat} (hb : sexaBase frac = some base) (total : Nat) :
    Shape (sexaFields frac base total) none ((total : Rat) / (base : Rat)) ∧ NoSpace (sexaFields frac base total) := by
  have dot1 : ∀ n, '.' :: natDigits n ≠ ['.'] := fun n => by simp [natDigits_ne]
  have dot2 : ∀ n, '.' :: padDigits 2 n ≠ ['.'] := fun n => by simp [padDigits_ne]
  -- in each case the fields are quotients and remainders of `total`, recombined over ℚ
  rcases sexaBase_cases hb with ⟨rfl, rfl⟩ | ⟨rfl, rfl⟩ | ⟨rfl, rfl⟩ | ⟨rfl, rfl⟩ | ⟨rfl, rfl⟩ <;>
    simp only [sexaFields, reduceIte, Nat.reduceEqDiff]
  · have h := shape_wm (total / 60) (mm := total % 60) (by omega) .nil (by simp)
    rw [List.append_nil] at h
    refine ⟨h.1.cast ?_, h.2⟩
    have : (total : Rat) = 60 * (total / 60 : Nat) + (total % 60 : Nat) := by
      exact_mod_cast (Nat.div_add_mod total 60).symm
    rw [this]; push_cast; ring
  · have h := shape_wm (total / 600) (mm := total % 600 / 10) (by omega)
      (Frac.natDigits1 (n := total % 600 % 10) (by omega)) (dot1 _)
    simp only [List.append_assoc, List.cons_append, List.nil_append] at h ⊢
    refine ⟨h.1.cast ?_, h.2⟩
    have : (total : Rat) = 600 * (total / 600 : Nat) + 10 * (total % 600 / 10 : Nat) + (total % 600 % 10 : Nat) := by
      exact_mod_cast (by omega : total = 600 * (total / 600) + 10 * (total % 600 / 10) + total % 600 % 10)
    rw [this]; push_cast; ring
  · have h := shape_wms (total / 3600) (mm := total % 3600 / 60) (ss := total % 3600 % 60) (by omega) (by omega)
      .nil (by simp)
    rw [List.append_nil] at h
    refine ⟨h.1.cast ?_, h.2⟩
    have : (total : Rat) = 3600 * (total / 3600 : Nat) + 60 * (total % 3600 / 60 : Nat) + (total % 3600 % 60 : Nat) := by
      exact_mod_cast (by omega : total = 3600 * (total / 3600) + 60 * (total % 3600 / 60) + total % 3600 % 60)
    rw [this]; push_cast; ring
  · have h := shape_wms (total / 36000) (mm := total % 36000 / 600) (ss := total % 36000 % 600 / 10) (by omega) (by omega)
      (Frac.natDigits1 (n := total % 36000 % 600 % 10) (by omega)) (dot1 _)
    simp only [List.append_assoc, List.cons_append, List.nil_append] at h ⊢
    refine ⟨h.1.cast ?_, h.2⟩
    have : (total : Rat) = 36000 * (total / 36000 : Nat) + 600 * (total % 36000 / 600 : Nat)
        + 10 * (total % 36000 % 600 / 10 : Nat) + (total % 36000 % 600 % 10 : Nat) := by
      exact_mod_cast (by omega : total = 36000 * (total / 36000) + 600 * (total % 36000 / 600)
        + 10 * (total % 36000 % 600 / 10) + total % 36000 % 600 % 10)
    rw [this]; push_cast; ring
  · have h := shape_wms (total / 360000) (mm := total % 360000 / 6000) (ss := total % 360000 % 6000 / 100) (by omega)
      (by omega) (Frac.padDigits2 (n := total % 360000 % 6000 % 100) (by omega)) (dot2 _)
    simp only [List.append_assoc, List.cons_append, List.nil_append] at h ⊢
    refine ⟨h.1.cast ?_, h.2⟩
    have : (total : Rat) = 360000 * (total / 360000 : Nat) + 6000 * (total % 360000 / 6000 : Nat)
        + 100 * (total % 360000 % 6000 / 100 : Nat) + (total % 360000 % 6000 % 100 : Nat) := by
      exact_mod_cast (by omega : total = 360000 * (total / 360000) + 6000 * (total % 360000 / 6000)
        + 100 * (total % 360000 % 6000 / 100) + total % 360000 % 6000 % 100)
    rw [this]; push_cast; ring

/-- `x` rounded to a multiple of `1/P`, half to even on the magnitude, as `num_to_str` computes it -/
def roundTo (P : Rat) (x : Rat) : Rat :=
  if x < 0 then -(((rhe (ratAbs x * P)).toNat : Rat) / P) else ((rhe (ratAbs x * P)).toNat : Rat) / P

/-- `int(x)`, truncation toward zero, as a `%d` conversion shows it -/
def truncTo (x : Rat) : Rat :=
  if x < 0 then -(((ratAbs x).floor.toNat : Nat) : Rat) else (((ratAbs x).floor.toNat : Nat) : Rat)

/-- the value a rendered text shows -/
def shown : Fmt → Rat → Option Rat
  | .sexa frac, x => (sexaBase frac).map fun base : Nat => roundTo (base : Rat) x
  | .f _ _ prec, x => some (roundTo ((10 : Rat) ^ prec) x)
  | .d _ _ _, x => some (truncTo x)

theorem divmod_cast (s prec : Nat) :
    ((s / 10 ^ prec : Nat) : Rat) + ((s % 10 ^ prec : Nat) : Rat) / (10 : Rat) ^ prec = (s : Rat) / (10 : Rat) ^ prec := by
  have h : (s : Rat) = (10 : Rat) ^ prec * ((s / 10 ^ prec : Nat) : Rat) + ((s % 10 ^ prec : Nat) : Rat) := by
    exact_mod_cast (Nat.div_add_mod s (10 ^ prec)).symm
  rw [h, add_div, mul_div_cancel_left₀ _ (by positivity)]

theorem signed_eq {sg : Str} {neg : Bool} (h : sg = ['-'] ↔ neg = true) (m : Rat) :
    (if sg = ['-'] then -m else m) = if neg = true then -m else m := by
  cases neg <;> simp_all

theorem render_shape {A : Arith} {fmt : Fmt} {x : Rat} {text : Str} (h : render A fmt x = .ok text) :
    ∃ sg body i m, (sg = [] ∨ sg = ['-'] ∨ sg = ['+']) ∧ text = sg ++ body ∧ NoSpace text ∧ Shape body i m ∧
      shown fmt x = some (if sg = ['-'] then -m else m) ∧ (∀ frac, fmt = .sexa frac → i = none) := by
  cases fmt with
  | sexa frac =>
    cases hb : sexaBase frac with
    | none => simp [render, hb] at h
    | some base =>
      simp only [render, hb, Outcome.ok.injEq] at h
      subst h
      obtain ⟨hs, hns⟩ := sexaFields_shape hb (rhe (ratAbs x * base)).toNat
      refine ⟨if x < 0 then ['-'] else [], _, none, _, ?_, rfl, ?_, hs, ?_, fun _ _ => rfl⟩
      · split <;> simp
      · split
        · exact NoSpace_minus.append hns
        · exact hns
      · simp only [shown, hb, Option.map_some, roundTo]
        split <;> simp
  | f fl width prec =>
    simp only [render, Outcome.ok.injEq] at h
    subst h
    simp only [shown, roundTo]
    generalize (rhe (ratAbs x * (10 : Rat) ^ prec)).toNat = s
    have htl : Frac (if prec > 0 then ['.'] ++ padDigits prec (s % 10 ^ prec) else if fl.hash then ['.'] else [])
        (((s % 10 ^ prec : Nat) : Rat) / (10 : Rat) ^ prec) := by
      by_cases hp : prec > 0
      · have := Frac.dot _ (padDigits_ads prec (s % 10 ^ prec))
        rw [padDigits_val, padDigits_len hp (Nat.mod_lt _ (by positivity))] at this
        simpa [hp] using this
      · have hp0 : prec = 0 := by omega
        subst hp0
        by_cases hh : fl.hash = true
        · simpa [hh, digitsVal, Nat.mod_one] using Frac.dot [] ADs_nil
        · simpa [hh, Nat.mod_one] using Frac.nil
    obtain ⟨sg, body, i, hsg, hneg, htext, hns, hs⟩ :=
      printf_shape fl width (decide (x < 0)) (natDigits_ads (s / 10 ^ prec)) (natDigits_ne _) htl
    refine ⟨sg, body, i, _, hsg, htext, htext ▸ hns, hs, ?_, fun _ h => nomatch h⟩
    rw [signed_eq hneg, natDigits_val, divmod_cast]
    simp
  | d fl width prec =>
    simp only [render, Outcome.ok.injEq] at h
    obtain ⟨ds, hds, hne, hval, rfl⟩ : ∃ ds, ADs ds ∧ ds ≠ [] ∧ digitsVal ds = (ratAbs x).floor.toNat ∧
        text = pyStrip (padField fl width (signStr fl (decide (x < 0) && (ratAbs x).floor.toNat != 0)) ds) := by
      cases prec with
      | some p => exact ⟨_, padDigits_ads _ _, padDigits_ne _ _, padDigits_val _ _, h.symm⟩
      | none => exact ⟨_, natDigits_ads _, natDigits_ne _, natDigits_val _, h.symm⟩
    obtain ⟨sg, body, i, hsg, hneg, htext, hns, hs⟩ := printf_shape fl width _ hds hne .nil
    rw [List.append_nil] at htext
    refine ⟨sg, body, i, _, hsg, htext, htext ▸ hns, hs, ?_, fun _ h => nomatch h⟩
    rw [signed_eq hneg, hval, add_zero]
    -- `%d` puts no sign on a zero, which changes nothing in the value
    by_cases hM : (ratAbs x).floor.toNat = 0 <;> simp [shown, truncTo, hM]

theorem render_denote {A : Arith} {fmt : Fmt} {x : Rat} {text : Str} (h : render A fmt x = .ok text) :
    numberCore text = true ∧ denote text = shown fmt x := by
  obtain ⟨sg, body, i, m, hsg, rfl, _, hs, hv, _⟩ := render_shape h
  obtain ⟨h1, h2, _⟩ := shaped hsg hs
  exact ⟨h1, h2.trans hv.symm⟩

theorem render_sexa_text {A : Arith} {frac base : Nat} {x : Rat} {text : Str} (hb : sexaBase frac = some base)
    (h : render A (.sexa frac) x = .ok text) :
    numberCore text = true ∧ denote text = some (roundTo base x) ∧
    strToNum A text = .ok (.float (A.fl (roundTo base x))) := by
  obtain ⟨sg, body, i, m, hsg, rfl, hns, hs, hv, hi⟩ := render_shape h
  obtain ⟨h1, h2, h3⟩ := shaped hsg hs
  simp only [shown, hb, Option.map_some, Option.some.injEq] at hv
  refine ⟨h1, by rw [h2, hv], ?_⟩
  rw [strToNum, pyStrip_noSpace hns, h3, hi frac rfl, hv]
  simp [shapeResult]

theorem render_f_text {A : Arith} {fl : Flags} {width prec : Nat} {x : Rat} {text : Str}
    (h : render A (.f fl width prec) x = .ok text) :
    numberCore text = true ∧ denote text = some (roundTo ((10 : Rat) ^ prec) x) := render_denote h

theorem render_d_text {A : Arith} {fl : Flags} {width : Nat} {prec : Option Nat} {x : Rat} {text : Str}
    (h : render A (.d fl width prec) x = .ok text) :
    numberCore text = true ∧ denote text = some (truncTo x) := render_denote h

theorem absR_mul_le {a c b : Rat} (hc : 0 < c) : absR a * c ≤ b ↔ (-b ≤ a * c ∧ a * c ≤ b) := by
  have : absR a * c = absR (a * c) := by
    rcases lt_or_ge a 0 with h | h
    · rw [absR_of_neg h, absR_of_neg (mul_neg_of_neg_of_pos h hc), neg_mul]
    · rw [absR_of_nonneg h, absR_of_nonneg (mul_nonneg h hc.le)]
  rw [this, absR_le]

theorem toNat_cast {z : Int} (h : 0 ≤ z) : ((z.toNat : Nat) : Rat) = (z : Rat) := by
  have : ((z.toNat : Nat) : Int) = z := Int.toNat_of_nonneg h
  exact_mod_cast this

/-- the sign drops out of every bound below -/
theorem absR_resign (x a : Rat) : absR ((if x < 0 then -a else a) - x) = absR (a - absR x) := by
  split
  · rw [absR_of_neg (a := x) ‹_›, ← absR_neg]; congr 1; ring
  · rw [absR_of_nonneg (a := x) (not_lt.mp ‹_›)]

theorem roundTo_bound {P : Rat} (hP : 0 < P) (x : Rat) : absR (roundTo P x - x) * (2 * P) ≤ 1 := by
  have hrb := rhe_bounds (absR x * P)
  rw [← toNat_cast (rhe_nonneg (mul_nonneg (absR_nonneg x) hP.le))] at hrb
  rw [roundTo, absR_resign, absR_mul_le (by positivity), ratAbs_eq]
  have e := div_mul_cancel₀ ((rhe (absR x * P)).toNat : Rat) hP.ne'
  constructor <;> linarith

theorem sexaBase_pos {frac base : Nat} (hb : sexaBase frac = some base) :
    (0 : Rat) < base ∧ (base : Rat) ≤ 360000 := by
  rcases sexaBase_cases hb with ⟨_, rfl⟩ | ⟨_, rfl⟩ | ⟨_, rfl⟩ | ⟨_, rfl⟩ | ⟨_, rfl⟩ <;> norm_num

theorem sexa_exact {frac base : Nat} (hb : sexaBase frac = some base) (x : Rat) :
    absR (roundTo base x - x) * (2 * base) ≤ 1 :=
  roundTo_bound (sexaBase_pos hb).1 x

theorem f_numeric (prec : Nat) (x : Rat) : absR (roundTo ((10 : Rat) ^ prec) x - x) * (2 * 10 ^ prec) ≤ 1 :=
  roundTo_bound (by positivity) x

theorem roundTo_fl_bound {A : Arith} (hA : ∀ q : Rat, absR (A.fl q - q) * 2 ^ 53 ≤ absR q) {P : Rat} (hP : 0 < P)
    {x : Rat} (hx : absR x * P + 1 / 2 ≤ 2 ^ 52) : absR (A.fl (roundTo P x) - x) * P ≤ 1 := by
  -- half a unit from `x` to `r = roundTo P x`; and, `|r|·P` being at most 2^52, at most half a unit more from `r`
  -- to `A.fl r`
  have h1 := roundTo_bound hP x
  have h2 := mul_le_mul_of_nonneg_right (hA (roundTo P x)) hP.le
  simp only [absR_eq_abs] at *
  generalize roundTo P x = r at *
  have h3 := mul_le_mul_of_nonneg_right (abs_sub_le (A.fl r) r x) hP.le
  have h4 := mul_le_mul_of_nonneg_right (abs_add_le (r - x) x) hP.le
  rw [sub_add_cancel] at h4
  linarith

theorem sexa_numeric {A : Arith} (hA : ∀ q : Rat, absR (A.fl q - q) * 2 ^ 53 ≤ absR q) {frac base : Nat}
    (hb : sexaBase frac = some base) {x : Rat} (hx : absR x ≤ 10 ^ 9) :
    absR (A.fl (roundTo base x) - x) * base ≤ 1 := by
  obtain ⟨hb0, hb1⟩ := sexaBase_pos hb
  -- 10^9 wholes of at most 360000 units are below 2^52 units
  have := mul_le_mul hx hb1 hb0.le (by norm_num)
  exact roundTo_fl_bound hA hb0 (by norm_num at this ⊢; linarith)

theorem d_numeric (x : Rat) : absR (truncTo x - x) < 1 := by
  have h1 := Rat.floor_le (absR x)
  have h2 := Rat.lt_floor_add_one (absR x)
  push_cast at h2
  rw [← toNat_cast (Rat.le_floor_iff.mpr (by simpa using absR_nonneg x))] at h1 h2
  rw [truncTo, absR_resign, absR_lt, ratAbs_eq]
  constructor <;> linarith

end Indi.Num

namespace Indi.DevBNum
open Indi Indi.Num

/-- a decimal digit in the sense of `pyIsDigit`, with what follows from that: it is no white space and no sign -/
def Dig (c : Char) : Prop :=
  pyIsDigit c = true ∧ pyIsSpace c = false ∧ c ≠ '-' ∧ c ≠ '+'

theorem natDigits1 (n : Nat) (h : n < 10) : ∃ a, natDigits n = [a] ∧ Dig a := by
  obtain ⟨a, ha⟩ := List.length_eq_one_iff.mp (natDigits_len1 h)
  have hd := (natDigits_ads n a (by simp [ha])).isDigit
  exact ⟨a, ha, hd, digit_noSpace hd, (digit_ne hd).2.1, (digit_ne hd).2.2.1⟩

theorem numToStr_numberOk {A : Arith} {f : Str} {x : Rat} {t : Str}
    (h : numToStr A f x = .ok t) : numberOk t = true := by
  unfold numToStr at h
  split at h
  · cases h
  · exact numberOk_of_core (render_denote h).1

end Indi.DevBNum
