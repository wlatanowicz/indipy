/-
  C01: one peer.  `synced` by property (`synced_iff`); a peer that saw a driver as it was sees it as it is once
  the driver's batch has arrived, in whatever order (`synced_deliver`, `peer_deliver`).
-/
import Indi.Proofs.SysView
import Indi.Proofs.SysArr
import Indi.Proofs.SysBatch

namespace Indi.SysP
open Indi Indi.Dev Indi.Cli Indi.Sys Indi.Spec.Sys

theorem vs_iff (b : Bool) (g : Group) (v : Vec) (oc : Option CVec) :
    VS b g v oc ↔ (if vecEnabled g v then (match oc with | some c => vecShown b g v c | none => false)
      else oc.isNone) = true := by
  cases hen : vecEnabled g v
  · rw [VS.disabled_iff hen]
    cases oc <;> simp
  · rw [VS.enabled_iff hen, GoodV]
    cases oc <;> simp

theorem synced_iff (b : Bool) (d : Device) (σ : Mirror) (hwf : VWf σ) :
    synced b d σ = true ↔
      (∀ gv ∈ allVecs d, VS b gv.1 gv.2 (look σ (some d.name) (some gv.2.name))) ∧
      (∀ vn c, look σ (some d.name) vn = some c →
        ∃ gv ∈ allVecs d, some gv.2.name = vn ∧ vecEnabled gv.1 gv.2 = true) := by
  unfold synced look
  cases hdev : olook (some d.name) σ with
  | none =>
    simp only [List.all_eq_true, Bool.not_eq_true', reduceCtorEq, IsEmpty.forall_iff, implies_true, and_true]
    exact forall₂_congr fun gv _ => by rw [vs_iff]; cases vecEnabled gv.1 gv.2 <;> simp
  | some cd =>
    simp only [Bool.and_eq_true, List.all_eq_true, List.any_eq_true, beq_iff_eq]
    refine and_congr (forall₂_congr fun gv _ => (vs_iff ..).symm)
      ⟨fun h vn c hl => h (vn, c) (olook_mem _ _ _ hl), fun h nv hnv => ?_⟩
    exact h nv.1 nv.2 (mem_olook _ _ _ (VWf_look hwf hdev) hnv)

theorem key_deliver {dn : Str} {g0 g' : Group} {v0 v' : Vec} {ms : List Msg} (hc : KeyCase dn g0 v0 g' v' ms)
    {p : Peer} {A : List Msg} (hA : Arrival p (atKey dn v'.name ms) A) {oc : Option CVec} (h0 : VS p.blobs g0 v0 oc) :
    VS p.blobs g' v' (A.foldl (updP p.blobs p.inproc) oc) := by
  -- a batch that deletes or announces the vector: every message announces its final state, and the deletion or
  -- definition among them arrives, being no BLOB update
  have ann : (∀ m ∈ atKey dn v'.name ms, AMsg dn g' v' m) → (∃ m ∈ atKey dn v'.name ms, AHead dn g' v' m) →
      VS p.blobs g' v' (A.foldl (updP p.blobs p.inproc) oc) := fun hall ⟨m0, hm0, hh⟩ =>
    fold_amsg dn g' v' _ _ A oc (fun m hm => hall m (arrival_sub hA m hm))
      ⟨m0, arrival_sup hA m0 hm0 hh.isSetBlob, hh⟩
  rcases hc with ⟨hE, hen, hview⟩ | ⟨hen, hne, hdel⟩ | ⟨hen, hall, m0, hm0, hd⟩ | ⟨hen, hen0, hshape, hall, last, hl, hlv⟩
  · -- nothing
    have : A = [] := List.eq_nil_iff_forall_not_mem.2 fun m hm => by
      have := arrival_sub hA m hm; rw [hE] at this; cases this
    subst this
    exact h0.congr hen hview
  · -- deleted
    obtain ⟨m0, hm0⟩ := List.exists_mem_of_ne_nil _ hne
    exact ann (fun m hm => Or.inr ⟨hen, hdel m hm⟩) ⟨m0, hm0, Or.inr ⟨hen, hdel m0 hm0⟩⟩
  · -- announced
    exact ann (fun m hm => Or.inl ⟨hen, hall m hm⟩) ⟨m0, hm0, Or.inl ⟨hen, hd⟩⟩
  · -- updated: the updates travel on one connection, so the last one published is the last to arrive
    rw [VS.enabled_iff hen0] at h0
    rw [VS.enabled_iff hen]
    have hβ : ∀ m ∈ atKey dn v'.name ms, isSetBlob m = decide (v'.kind = .blob) := fun m hm => by
      obtain ⟨g, v, h1, _, h3⟩ := hall m hm
      rw [isSetBlob_of_set h1, h3.kind]
    exact fold_wr dn g' v' _ _ A oc (fun m hm => hall m (arrival_sub hA m hm)) last ((hA.last _ hβ).trans hl) hlv
      (h0.shaped.congr hshape)

theorem synced_deliver {d d' : Device} {b ms : List Msg} (hb : DevBatch d b d')
    (hkey : ∀ vn, atKey d.name vn ms = atKey d.name vn b) (hsub : ∀ m ∈ ms, (key m).1 = some d.name → m ∈ b)
    (hE : ∀ m ∈ ms, Emitted m) (p : Peer) (hwf : VWf p.mirror) (hs : synced p.blobs d p.mirror = true)
    (L : List Msg) (hL : Arrival p ms L) : synced p.blobs d' (deliver reg p L).mirror = true := by
  have hEL : ∀ m ∈ L, Emitted m := fun m hm => hE m (arrival_sub hL m hm)
  obtain ⟨hs1, hs2⟩ := (synced_iff _ _ _ hwf).1 hs
  -- the view of a property after the batch: the messages addressing it arrive as a batch of their own
  have hlook : ∀ vn : Option Str, ∃ A, Arrival p (ms.filter fun m => decide (key m = (some d.name, vn))) A ∧
      look (deliver reg p L).mirror (some d'.name) vn = A.foldl (updP p.blobs p.inproc) (look p.mirror (some d.name) vn) :=
    fun vn => ⟨_, hL.filter _, by rw [look_deliver L _ _ p hEL hwf, hb.name]⟩
  have hvs : ∀ gi vi g' v', getVec d' gi vi = some (g', v') →
      VS p.blobs g' v' (look (deliver reg p L).mirror (some d'.name) (some v'.name)) := by
    intro gi vi g' v' hg'
    cases hg0 : getVec d gi vi with
    | none => rw [hb.none gi vi hg0] at hg'; cases hg'
    | some gv0 =>
      obtain ⟨g'', v'', hg'', hname, hcase⟩ := hb.cases gi vi gv0.1 gv0.2 hg0
      rw [hg'] at hg''
      cases hg''
      obtain ⟨A, hA, hl⟩ := hlook (some v'.name)
      rw [hl]
      have h0 := hs1 gv0 (mem_allVecs.2 ⟨gi, vi, hg0⟩)
      rw [← hname] at h0
      exact key_deliver hcase (by rw [← hkey]; exact hA) h0
  rw [synced_iff _ _ _ (deliver_wf L p hwf)]
  refine ⟨fun gv hgv => ?_, fun vn c hl => ?_⟩
  · obtain ⟨gi, vi, hg⟩ := mem_allVecs.1 hgv
    exact hvs gi vi gv.1 gv.2 hg
  · by_cases hex : ∃ gi vi g' v', getVec d' gi vi = some (g', v') ∧ some v'.name = vn
    · obtain ⟨gi, vi, g', v', hg', rfl⟩ := hex
      refine ⟨(g', v'), mem_allVecs.2 ⟨gi, vi, hg'⟩, rfl, ?_⟩
      have := hvs gi vi g' v' hg'
      cases he : vecEnabled g' v'
      · rw [VS.disabled_iff he, hl] at this; cases this
      · rfl
    · -- no message addresses a property the driver does not have
      exfalso
      obtain ⟨A, hA, hl'⟩ := hlook vn
      have : A = [] := List.eq_nil_iff_forall_not_mem.2 fun m hm => by
        have hm := List.mem_filter.1 (arrival_sub hA m hm)
        have hk : key m = (some d.name, vn) := by simpa using hm.2
        obtain ⟨_, gi, vi, g', v', hg', hk'⟩ := hb.emitted m (hsub m hm.1 (by rw [hk]))
        rw [hk'] at hk
        exact hex ⟨gi, vi, g', v', hg', (Prod.mk.inj hk).2⟩
      rw [hl', this] at hl
      obtain ⟨gv, hgv, hn, _⟩ := hs2 vn c hl
      obtain ⟨gi, vi, hg⟩ := mem_allVecs.1 hgv
      obtain ⟨g', v', hg', hname, _⟩ := hb.cases gi vi gv.1 gv.2 hg
      exact hex ⟨gi, vi, g', v', hg', by rw [hname]; exact hn⟩

theorem peer_deliver {devs devs' : List Device} {ms : List Msg} (hwb : WB devs ms devs')
    (hnd : (devs.map (·.name)).Nodup) (p : Peer) (hwf : VWf p.mirror) (hs : peerSynced devs p = true) (L : List Msg) (hL : Arrival p ms L) :
    peerSynced devs' (deliver reg p L) = true := by
  simp only [peerSynced, Bool.and_eq_true, List.all_eq_true, List.any_eq_true, beq_iff_eq] at hs ⊢
  obtain ⟨hs1, hs2⟩ := hs
  have hE : ∀ m ∈ ms, Emitted m := fun m hm => (hwb.msgs m hm).1
  have hname : ∀ d ∈ devs, ∃ d' ∈ devs', d'.name = d.name := fun d hd =>
    List.mem_map.1 (hwb.names ▸ List.mem_map_of_mem (f := (·.name)) hd)
  refine ⟨?_, ?_⟩
  · intro d' hd'
    obtain ⟨d, hd, b, hb, hkey, hsub⟩ := hwb.device hnd d' hd'
    rw [(deliver_flags L p).1]
    exact synced_deliver hb hkey hsub hE p hwf (hs1 d hd) L hL
  · intro nd hnd
    have hk : nd.1 ∈ (deliver reg p L).mirror.map Prod.fst := List.mem_map.2 ⟨nd, hnd, rfl⟩
    rcases devkeys_deliver L p (fun m hm => hE m (arrival_sub hL m hm)) nd.1 hk with h | ⟨m, hm, h⟩
    · obtain ⟨nd0, hnd0, h0⟩ := List.mem_map.1 h
      obtain ⟨d, hd, hdn⟩ := hs2 nd0 hnd0
      obtain ⟨d', hd', hn'⟩ := hname d hd
      exact ⟨d', hd', by rw [hn', hdn, h0]⟩
    · obtain ⟨_, d, hd, hdk⟩ := hwb.msgs m (arrival_sub hL m hm)
      obtain ⟨d', hd', hn'⟩ := hname d hd
      refine ⟨d', hd', ?_⟩
      rw [hn', h]
      exact hdk.symm

end Indi.SysP
