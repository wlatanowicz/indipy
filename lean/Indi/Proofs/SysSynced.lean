/-
  What C06 and C08 share.  What a mirror that is synchronised with a driver holds of an enabled property: the entry,
  with the keys and names of the enabled elements in order.  Two list facts: among the entries that pass a filter, a
  key that occurs once names one position (`idx_of_nodup_filter`); a fold in which the last hit decides (`foldl_hit`).
-/
import Indi.Properties.C08Defs
import Indi.Proofs.SysView
import Indi.Proofs.SysBatch

namespace Indi.Sys
open Indi Indi.Dev Indi.Cli Indi.Spec.Sys Indi.Spec.Dev

theorem vecShown_spec {blobs : Bool} {g : Group} {v : Vec} {c : CVec} (h : vecShown blobs g v c = true) :
    c.kind = vkind v.kind ∧ c.name = some v.name ∧
    List.Forall₂ (fun e ce => ce.1 = some e.d.name ∧ ce.2.name = some e.d.name) (enabledElems v) c.elems := by
  obtain ⟨h1, h2, _, _, h5⟩ := SysP.vecShape_of_shown h
  exact ⟨h1, h2, (List.forall₂_map_left_iff.1 h5).imp fun _ _ h => ⟨h.1, h.2.1⟩⟩

theorem mem_allVecs {d : Device} {gi vi : Nat} {g : Group} {v : Vec} (h : getVec d gi vi = some (g, v)) :
    (g, v) ∈ allVecs d :=
  SysP.mem_allVecs.2 ⟨gi, vi, h⟩

theorem synced_vec {blobs : Bool} {d : Device} {σ : Mirror} (h : synced blobs d σ = true)
    {g : Group} {v : Vec} (hgv : (g, v) ∈ allVecs d) (hen : vecEnabled g v = true) :
    ∃ cd c, olook (some d.name) σ = some cd ∧ olook (some v.name) cd.vecs = some c ∧ vecShown blobs g v c = true := by
  unfold synced at h
  split at h
  · rw [List.all_eq_true] at h
    have := h (g, v) hgv
    simp [hen] at this
  · rename_i cd hcd
    simp only [Bool.and_eq_true, List.all_eq_true] at h
    have := h.1 (g, v) hgv
    simp only [hen, if_true] at this
    split at this
    · rename_i c hc; exact ⟨cd, c, hcd, hc, this⟩
    · cases this

theorem olook_isSome_of_key {α : Type} {l : List (Option Str × α)} {x : Option Str × α} (h : x ∈ l) :
    (olook x.1 l).isSome = true :=
  Option.isSome_iff_ne_none.2 fun hl => (olook_none_iff _ _).1 hl (List.mem_map_of_mem h)

theorem vecShown_key {blobs : Bool} {g : Group} {v : Vec} {c : CVec} (h : vecShown blobs g v c = true)
    {e : Dev.Elem} (he : e ∈ v.elems) (hen : e.enabled = true) : (olook (some e.d.name) c.elems).isSome = true := by
  obtain ⟨_, _, h5⟩ := vecShown_spec h
  obtain ⟨ce, hz⟩ := SysP.forall₂_mem_left h5 e (List.mem_filter.2 ⟨he, hen⟩ : e ∈ enabledElems v)
  rw [← ((List.forall₂_iff_zip.1 h5).2 hz).1]
  exact olook_isSome_of_key (List.of_mem_zip hz).2

theorem idx_of_nodup_filter {α β : Type} (p : α → Bool) (k : α → β) (l : List α)
    (hn : ((l.filter p).map k).Nodup) (i j : Nat) (a b : α) (ha : l[i]? = some a) (hb : l[j]? = some b)
    (pa : p a = true) (pb : p b = true) (hk : k a = k b) : i = j := by
  rw [List.Nodup, List.pairwise_map, List.pairwise_filter, List.pairwise_iff_getElem] at hn
  obtain ⟨hi, rfl⟩ := List.getElem?_eq_some_iff.1 ha
  obtain ⟨hj, rfl⟩ := List.getElem?_eq_some_iff.1 hb
  rcases Nat.lt_trichotomy i j with h | h | h
  · exact absurd hk (hn i j hi hj h pa pb)
  · exact h
  · exact absurd hk.symm (hn j i hj hi h pb pa)

theorem foldl_hit {α β : Type} (f : β → α → β) (hit : α → Prop) (I Q : β → Prop) (ps : List α)
    (hI : ∀ p ∈ ps, ∀ b, I b → I (f b p)) (hh : ∀ p ∈ ps, hit p → ∀ b, I b → Q (f b p))
    (hm : ∀ p ∈ ps, ¬hit p → ∀ b, I b → Q b → Q (f b p)) :
    ∀ b, I b → (∃ p ∈ ps, hit p) ∨ Q b → Q (ps.foldl f b) := by
  induction ps with
  | nil => exact fun b _ h => h.elim (fun ⟨_, hp, _⟩ => nomatch hp) id
  | cons p ps ih =>
    intro b hb h
    rw [List.forall_mem_cons] at hI hh hm
    refine ih hI.2 hh.2 hm.2 (f b p) (hI.1 b hb) ?_
    by_cases hp : hit p
    · exact .inr (hh.1 hp b hb)
    · exact h.imp (fun ⟨q, hq, hqh⟩ => ⟨q, (List.mem_cons.1 hq).resolve_left fun e => hp (e ▸ hqh), hqh⟩) (hm.1 hp b hb)

end Indi.Sys
