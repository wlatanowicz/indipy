/-
  The text side of C10: ASCII digits as `str(n)` writes them, `splitFields`, and the grammar `Shape`
  shared by the three readers `numberCore` (`checks.number`), `strToNumCore` (`str_to_num`) and
  `Spec.Num.denote`.  No arithmetic beyond casts: Proofs/Num.lean has the rendering and the error bounds.
-/
import Indi.Spec.Num
import Indi.Proofs.Str

namespace Indi.Num
open Indi Indi.Spec.Num

/-- the ten ASCII digit characters -/
def AD (c : Char) : Prop := ∃ d, d < 10 ∧ c = Char.ofNat (48 + d)

def ADs (ds : Str) : Prop := ∀ c ∈ ds, AD c

theorem ad_facts : ∀ d, d < 10 →
    pyIsDigit (Char.ofNat (48 + d)) = true ∧ digitVal (Char.ofNat (48 + d)) = d ∧
    pyIsSpace (Char.ofNat (48 + d)) = false := by
  decide +kernel

theorem AD.isDigit {c} (h : AD c) : pyIsDigit c = true := by
  obtain ⟨d, hd, rfl⟩ := h; exact (ad_facts d hd).1
theorem digitVal_ofNat {d} (hd : d < 10) : digitVal (Char.ofNat (48 + d)) = d := (ad_facts d hd).2.1
theorem AD_ofNat {d} (hd : d < 10) : AD (Char.ofNat (48 + d)) := ⟨d, hd, rfl⟩

theorem ADs.digs {ds} (h : ADs ds) : Digs ds := fun c hc => (h c hc).isDigit
theorem ADs.noSpace {d : Str} (h : ADs d) : NoSpace d := h.digs.noSpace

theorem ADs.append {a b} (ha : ADs a) (hb : ADs b) : ADs (a ++ b) :=
  fun c hc => (List.mem_append.mp hc).elim (ha c) (hb c)
theorem ADs_replicate (k : Nat) : ADs (List.replicate k '0') := by
  intro c hc; rw [(List.mem_replicate.mp hc).2]; exact ⟨0, by decide, rfl⟩
theorem ADs_nil : ADs [] := by intro c hc; cases hc
theorem digitsVal_append_single (ds : Str) (c : Char) :
    digitsVal (ds ++ [c]) = digitsVal ds * 10 + digitVal c := by
  simp [digitsVal, List.foldl_append]

theorem digitsVal_zeros_append (k : Nat) (ds : Str) : digitsVal (List.replicate k '0' ++ ds) = digitsVal ds := by
  induction k with
  | zero => rfl
  | succ k ih =>
    have : digitVal '0' = 0 := digitVal_ofNat (d := 0) (by decide)
    simpa [digitsVal, List.replicate_succ, this] using ih

theorem natDigitsAux_spec : ∀ fuel n acc, n < fuel →
    ∃ ds, natDigitsAux fuel n acc = ds ++ acc ∧ ds ≠ [] ∧ ADs ds ∧ digitsVal ds = n ∧
      ∀ w, 0 < w → n < 10 ^ w → ds.length ≤ w := by
  intro fuel
  induction fuel with
  | zero => intro n acc h; omega
  | succ fuel ih =>
    intro n acc h
    unfold natDigitsAux
    simp only
    split
    · rename_i h10
      refine ⟨[Char.ofNat (48 + n % 10)], rfl, by simp, ?_, ?_, ?_⟩
      · intro c hc; simp at hc; subst hc; exact AD_ofNat (by omega)
      · simp [digitsVal]; rw [digitVal_ofNat (by omega)]; omega
      · intro w hw _; simp; omega
    · rename_i h10
      obtain ⟨ds, h1, h2, h3, h4, h5⟩ := ih (n / 10) (Char.ofNat (48 + n % 10) :: acc) (by omega)
      refine ⟨ds ++ [Char.ofNat (48 + n % 10)], by simp [h1], by simp, ?_, ?_, ?_⟩
      · exact h3.append (by intro c hc; simp at hc; subst hc; exact AD_ofNat (by omega))
      · rw [digitsVal_append_single, h4, digitVal_ofNat (by omega)]; omega
      · intro w hw hn
        match w, hw with
        | 1, _ => omega
        | w + 2, _ =>
          have := h5 (w + 1) (by omega) (by rw [Nat.pow_succ] at hn; omega)
          simp; omega

theorem natDigits_spec (n : Nat) :
    natDigits n ≠ [] ∧ ADs (natDigits n) ∧ digitsVal (natDigits n) = n ∧
      ∀ w, 0 < w → n < 10 ^ w → (natDigits n).length ≤ w := by
  obtain ⟨ds, h1, h⟩ := natDigitsAux_spec (n + 1) n [] (by omega)
  unfold natDigits; rw [h1, List.append_nil]; exact h

theorem natDigits_ne (n) : natDigits n ≠ [] := (natDigits_spec n).1
theorem natDigits_ads (n) : ADs (natDigits n) := (natDigits_spec n).2.1
theorem natDigits_val (n) : digitsVal (natDigits n) = n := (natDigits_spec n).2.2.1
theorem natDigits_len1 {n} (h : n < 10) : (natDigits n).length = 1 := by
  have := (natDigits_spec n).2.2.2 1 (by omega) (by omega)
  have := List.length_pos_iff.mpr (natDigits_ne n)
  omega

theorem padDigits_ne (w n) : padDigits w n ≠ [] := by
  unfold padDigits; simp [natDigits_ne]
theorem padDigits_ads (w n) : ADs (padDigits w n) := by
  unfold padDigits; exact (ADs_replicate _).append (natDigits_ads n)
theorem padDigits_val (w n) : digitsVal (padDigits w n) = n := by
  unfold padDigits; simp only; rw [digitsVal_zeros_append, natDigits_val]
theorem padDigits_len {w n} (hw : 0 < w) (hn : n < 10 ^ w) : (padDigits w n).length = w := by
  have := (natDigits_spec n).2.2.2 w hw hn
  unfold padDigits; simp; omega
theorem padDigits_shape (w n) : ∃ k, padDigits w n = List.replicate k '0' ++ natDigits n := ⟨_, rfl⟩

theorem padDigits2 {n} (hn : n < 100) :
    ∃ a b, padDigits 2 n = [a, b] ∧ pyIsDigit a = true ∧ pyIsDigit b = true ∧ digitsVal [a, b] = n := by
  have hl := padDigits_len (w := 2) (by omega) (by omega : n < 10 ^ 2)
  have ha := padDigits_ads 2 n
  match h : padDigits 2 n, hl with
  | [a, b], _ =>
    rw [h] at ha
    exact ⟨a, b, rfl, (ha a (by simp)).isDigit, (ha b (by simp)).isDigit, h ▸ padDigits_val 2 n⟩

theorem isSexaSep_eq (c : Char) : isSexaSep c = isSep c := rfl
def NoSep (x : Str) : Prop := ∀ c ∈ x, isSep c = false

theorem splitFields_noSep {f : Str} (h : NoSep f) : splitFields f = [f] := by
  induction f with
  | nil => rfl
  | cons a f ih =>
    have := ih (fun c hc => h c (by simp [hc]))
    simp [splitFields, this, h a (by simp)]

theorem splitFields_cons {c : Char} {cs f : Str} {fs : List Str} (h : splitFields cs = f :: fs) :
    splitFields (c :: cs) = if isSep c then [] :: f :: fs else (c :: f) :: fs := by
  rw [splitFields, h]

theorem splitFields_ne (x : Str) : ∃ f fs, splitFields x = f :: fs := by
  induction x with
  | nil => exact ⟨_, _, rfl⟩
  | cons a x ih =>
    obtain ⟨f, fs, h⟩ := ih
    rw [splitFields_cons h]; split <;> exact ⟨_, _, rfl⟩

theorem splitFields_sep {f : Str} (h : NoSep f) {c : Char} (hc : isSep c = true) (rest : Str) :
    splitFields (f ++ c :: rest) = f :: splitFields rest := by
  induction f with
  | nil =>
    obtain ⟨f, fs, h'⟩ := splitFields_ne rest
    simp only [List.nil_append]
    rw [splitFields_cons h', h']
    simp [hc]
  | cons a f ih =>
    have := ih (fun c hc => h c (by simp [hc]))
    simp only [List.cons_append]
    rw [splitFields_cons this]
    simp [h a (by simp)]

theorem Digs.noSep {d : Str} (h : Digs d) : NoSep d := fun c hc => (digit_ne (h c hc)).2.2.2

/- `numberBody`, `strBody`, `denBody` are the texts of `numberCore`, `strToNumCore`, `denote` below their first
  `match` (which splits off the sign), copied, so that the three `_eq` lemmas hold by unfolding. -/

def stripSign (x : Str) : Bool × Str :=
  match x with
  | '-' :: r => (true, r)
  | '+' :: r => (false, r)
  | r => (false, r)

def numberBody (body : Str) : Bool :=
  let (d, r) := spanDigits body
  if d.isEmpty then
    match r with
    | '.' :: r' => let (d', r'') := spanDigits r'; !d'.isEmpty && r''.isEmpty
    | _ => false
  else
    match r with
    | [] => true
    | '.' :: r' => let (_, r'') := spanDigits r'; r''.isEmpty
    | c :: r' =>
      if isSexaSep c then
        match twoDigits r' with
        | none => false
        | some r2 =>
          match r2 with
          | [] => true
          | '.' :: _ => optFracEnd r2
          | c2 :: r3 =>
            if isSexaSep c2 then
              match twoDigits r3 with
              | none => false
              | some r4 => optFracEnd r4
            else false
      else false

theorem stripSign_other {x : Str} (h1 : ∀ r, x = '-' :: r → False) (h2 : ∀ r, x = '+' :: r → False) :
    stripSign x = (false, x) := by
  unfold stripSign
  split
  · exact absurd rfl (h1 _)
  · exact absurd rfl (h2 _)
  · rfl

theorem numberCore_eq (x : Str) : numberCore x = numberBody (stripSign x).2 := by
  unfold numberCore
  split
  · rfl
  · rfl
  · rename_i h1 h2; rw [stripSign_other h1 h2]; rfl

def strBody (A : Arith) (neg : Bool) (body : Str) : Outcome NumVal :=
  match sexaVal body with
  | some mag => .ok (.float (A.fl (if neg then -mag else mag)))
  | none =>
    let (d, r) := spanDigits body
    if !d.isEmpty && r.isEmpty then .ok (.int (if neg then -(digitsVal d : Int) else digitsVal d))
    else
      match r with
      | '.' :: fr =>
        let (f, r') := spanDigits fr
        if r'.isEmpty && (!d.isEmpty || !f.isEmpty) then
          let mag := decimalVal d f
          .ok (.float (A.fl (if neg then -mag else mag)))
        else .valueError
      | _ => .valueError

theorem strToNumCore_eq (A : Arith) (x : Str) :
    strToNumCore A x = strBody A (stripSign x).1 (stripSign x).2 := rfl

def denBody (neg : Bool) (body : Str) : Option Rat :=
  let mag : Option Rat :=
    match (splitFields body).map fieldVal with
    | [some a] => some a
    | [some a, some b] => some (a + b / 60)
    | [some a, some b, some c] => some (a + b / 60 + c / 3600)
    | _ => none
  mag.map fun m => if neg then -m else m

theorem denote_eq (x : Str) : denote x = denBody (stripSign x).1 (stripSign x).2 := rfl

theorem fieldVal_digs {d : Str} (hd : Digs d) (hne : d ≠ []) : fieldVal d = some (digitsVal d) := by
  have h := List.takeWhile_append_of_pos (l₂ := []) hd
  have h' := List.dropWhile_append_of_pos (l₂ := []) hd
  simp only [List.append_nil, List.takeWhile_nil, List.dropWhile_nil] at h h'
  simp [fieldVal, h, h', hne]

theorem fieldVal_dec {d f : Str} (hd : Digs d) (hf : Digs f) (hne : d ≠ [] ∨ f ≠ []) :
    fieldVal (d ++ '.' :: f) = some (decimalVal d f) := by
  have : (f.all pyIsDigit) = true := List.all_eq_true.mpr hf
  unfold fieldVal
  rw [List.takeWhile_append_of_pos hd, List.dropWhile_append_of_pos hd]
  rcases hne with h | h <;> simp [dot_facts.1, this, h]

/-- last field `dd` or `dd.d+` -/
inductive LF (a b : Char) : Str → Rat → Prop
  | plain : LF a b [] (digitsVal [a, b])
  | frac (f : Str) (hf : Digs f) (hne : f ≠ []) : LF a b ('.' :: f) (decimalVal [a, b] f)

theorem Digs_two {a b : Char} (ha : pyIsDigit a = true) (hb : pyIsDigit b = true) : Digs [a, b] :=
  Digs_cons.mpr ⟨ha, Digs_cons.mpr ⟨hb, Digs_nil⟩⟩

theorem LF.lastField {a b t v} (h : LF a b t v) (ha : pyIsDigit a = true) (hb : pyIsDigit b = true) :
    lastField (a :: b :: t) = some v := by
  cases h with
  | plain => simp [Num.lastField, ha, hb]
  | frac f hf hne => simp [Num.lastField, ha, hb, spanDigits_digs hf, hne]

theorem LF.fieldVal {a b t v} (h : LF a b t v) (ha : pyIsDigit a = true) (hb : pyIsDigit b = true) :
    fieldVal (a :: b :: t) = some v := by
  cases h with
  | plain => exact fieldVal_digs (Digs_two ha hb) (by simp)
  | frac f hf hne => exact fieldVal_dec (d := [a, b]) (Digs_two ha hb) hf (Or.inr hne)

theorem LF.optFracEnd {a b t v} (h : LF a b t v) : optFracEnd t = true := by
  cases h with
  | plain => rfl
  | frac f hf hne => simp [Indi.optFracEnd, spanDigits_digs hf, hne]

theorem LF.noSep {a b t v} (h : LF a b t v) (ha : pyIsDigit a = true) (hb : pyIsDigit b = true) :
    NoSep (a :: b :: t) := by
  refine List.forall_mem_cons.mpr ⟨(digit_ne ha).2.2.2, List.forall_mem_cons.mpr ⟨(digit_ne hb).2.2.2, ?_⟩⟩
  cases h with
  | plain => exact fun _ hc => nomatch hc
  | frac f hf hne => exact List.forall_mem_cons.mpr ⟨dot_facts.2.1, hf.noSep⟩

theorem LF.noSpace {a b t v} (h : LF a b t v) (ha : pyIsDigit a = true) (hb : pyIsDigit b = true) :
    NoSpace (a :: b :: t) := by
  refine NoSpace_cons.mpr ⟨digit_noSpace ha, NoSpace_cons.mpr ⟨digit_noSpace hb, ?_⟩⟩
  cases h with
  | plain => exact NoSpace_nil
  | frac f hf hne => exact NoSpace_cons.mpr ⟨dot_facts.2.2, hf.noSpace⟩

theorem LF.of_optFracEnd {t : Str} (h : Indi.optFracEnd t = true) (a b : Char) : ∃ v, LF a b t v := by
  unfold Indi.optFracEnd at h
  split at h
  · exact ⟨_, .plain⟩
  · rename_i rest
    obtain ⟨h1, h2, h3⟩ := spanDigits_inv rest (d := (spanDigits rest).1) (r := (spanDigits rest).2) rfl
    simp only [Bool.and_eq_true, Bool.not_eq_true', List.isEmpty_iff] at h
    rw [h.2, List.append_nil] at h1
    rw [h1]
    exact ⟨_, .frac _ h2 (by simpa using h.1)⟩
  · cases h

/-- the bodies (text after the sign) of the number grammar, with the integer they denote (if of
the integer form) and the magnitude they denote -/
inductive Shape : Str → Option Nat → Rat → Prop
  | int (d : Str) (hd : Digs d) (hne : d ≠ []) : Shape d (some (digitsVal d)) (digitsVal d)
  | dec (d f : Str) (hd : Digs d) (hf : Digs f) (hne : d ≠ [] ∨ f ≠ []) :
      Shape (d ++ '.' :: f) none (decimalVal d f)
  | s2 (d : Str) (c a b : Char) (t : Str) (v : Rat) (hd : Digs d) (hne : d ≠ [])
      (hc : isSexaSep c = true) (ha : pyIsDigit a = true) (hb : pyIsDigit b = true) (ht : LF a b t v) :
      Shape (d ++ c :: a :: b :: t) none ((digitsVal d : Rat) + v / 60)
  | s3 (d : Str) (c a b c2 a2 b2 : Char) (t : Str) (v : Rat) (hd : Digs d) (hne : d ≠ [])
      (hc : isSexaSep c = true) (ha : pyIsDigit a = true) (hb : pyIsDigit b = true)
      (hc2 : isSexaSep c2 = true) (ha2 : pyIsDigit a2 = true) (hb2 : pyIsDigit b2 = true)
      (ht : LF a2 b2 t v) :
      Shape (d ++ c :: a :: b :: c2 :: a2 :: b2 :: t) none
        ((digitsVal d : Rat) + (digitsVal [a, b] : Rat) / 60 + v / 3600)

theorem Shape.numberBody {body i m} (h : Shape body i m) : numberBody body = true := by
  unfold Num.numberBody
  cases h with
  | int d hd hne => simp [spanDigits_digs hd, hne]
  | dec d f hd hf hne =>
    rw [spanDigits_stop hd dot_facts.1]
    cases d <;> simp [spanDigits_digs hf] at hne ⊢
    exact hne
  | s2 d c a b t v hd hne hc ha hb ht =>
    -- with `c ≠ '.'` at hand `simp` passes the pattern `'.' :: _`
    have := (sep_facts hc).2
    rw [spanDigits_stop hd (sep_facts hc).1]
    have := ht.optFracEnd
    cases ht <;> simp [hne, hc, twoDigits, ha, hb, this]
  | s3 d c a b c2 a2 b2 t v hd hne hc ha hb hc2 ha2 hb2 ht =>
    have := (sep_facts hc).2
    have := (sep_facts hc2).2
    rw [spanDigits_stop hd (sep_facts hc).1]
    simp [hne, hc, twoDigits, ha, hb, hc2, ha2, hb2, ht.optFracEnd]

theorem lastField_none {a b c2 : Char} {r : Str} (hc2 : isSexaSep c2 = true) :
    lastField (a :: b :: c2 :: r) = none := by
  simp only [lastField]
  split
  · split
    · rename_i h; cases h
    · rename_i h; cases h; exact absurd rfl (sep_facts hc2).2
    · rfl
  · rfl

/-- what `str_to_num` returns on a body of the grammar -/
def shapeResult (A : Arith) (neg : Bool) (i : Option Nat) (m : Rat) : NumVal :=
  match i with
  | some n => .int (if neg then -(n : Int) else n)
  | none => .float (A.fl (if neg then -m else m))

theorem Shape.strBody {body i m} (h : Shape body i m) (A : Arith) (neg : Bool) :
    strBody A neg body = .ok (shapeResult A neg i m) := by
  unfold Num.strBody sexaVal
  cases h with
  | int d hd hne => simp [spanDigits_digs hd, hne, shapeResult]
  | dec d f hd hf hne =>
    rw [spanDigits_stop hd dot_facts.1]
    rcases hne with h | h <;> simp [dot_facts.2.1, spanDigits_digs hf, shapeResult, h]
  | s2 d c a b t v hd hne hc ha hb ht =>
    rw [spanDigits_stop hd (sep_facts hc).1]
    simp [hne, hc, ht.lastField ha hb, shapeResult]
  | s3 d c a b c2 a2 b2 t v hd hne hc ha hb hc2 ha2 hb2 ht =>
    rw [spanDigits_stop hd (sep_facts hc).1]
    simp [hne, hc, lastField_none hc2, ha, hb, hc2, ht.lastField ha2 hb2, shapeResult]

theorem Shape.denBody {body i m} (h : Shape body i m) (neg : Bool) :
    denBody neg body = some (if neg then -m else m) := by
  unfold Num.denBody
  cases h with
  | int d hd hne =>
    rw [splitFields_noSep hd.noSep]
    simp [fieldVal_digs hd hne]
  | dec d f hd hf hne =>
    rw [splitFields_noSep (List.forall_mem_append.mpr ⟨hd.noSep, List.forall_mem_cons.mpr ⟨dot_facts.2.1, hf.noSep⟩⟩)]
    simp [fieldVal_dec hd hf hne]
  | s2 d c a b t v hd hne hc ha hb ht =>
    rw [splitFields_sep hd.noSep hc, splitFields_noSep (ht.noSep ha hb)]
    simp [fieldVal_digs hd hne, ht.fieldVal ha hb]
  | s3 d c a b c2 a2 b2 t v hd hne hc ha hb hc2 ha2 hb2 ht =>
    have h2 := splitFields_sep (f := [a, b]) (Digs_two ha hb).noSep hc2 (a2 :: b2 :: t)
    simp only [List.cons_append, List.nil_append] at h2
    rw [splitFields_sep hd.noSep hc, h2, splitFields_noSep (ht.noSep ha2 hb2)]
    simp [fieldVal_digs hd hne, fieldVal_digs (Digs_two ha hb), ht.fieldVal ha2 hb2]

theorem Shape.head {body i m} (h : Shape body i m) : ∀ c r, body = c :: r → c ≠ '-' ∧ c ≠ '+' := by
  have key : ∀ (d rest : Str), Digs d → (d ≠ [] ∨ ∃ r, rest = '.' :: r) →
      ∀ c r, d ++ rest = c :: r → c ≠ '-' ∧ c ≠ '+' := by
    intro d rest hd hne c r hcr
    cases d with
    | nil =>
      obtain ⟨r', rfl⟩ := hne.resolve_left (by simp)
      simp at hcr; rw [← hcr.1]; decide
    | cons a d =>
      simp at hcr; rw [← hcr.1]
      have := digit_ne (hd a (by simp))
      exact ⟨this.2.1, this.2.2.1⟩
  cases h with
  | int _ hd hne => simpa using key _ [] hd (Or.inl hne)
  | dec d f hd hf hne => exact key d _ hd (Or.inr ⟨_, rfl⟩)
  | s2 d c a b t v hd hne hc ha hb ht => exact key d _ hd (Or.inl hne)
  | s3 d c a b c2 a2 b2 t v hd hne hc ha hb hc2 ha2 hb2 ht => exact key d _ hd (Or.inl hne)

theorem twoDigits_inv {r r2 : Str} (h : twoDigits r = some r2) :
    ∃ a b, r = a :: b :: r2 ∧ pyIsDigit a = true ∧ pyIsDigit b = true := by
  unfold twoDigits at h
  split at h
  · simp only [Bool.and_eq_true, Option.ite_none_right_eq_some, Option.some.injEq] at h
    exact ⟨_, _, by rw [h.2], h.1⟩
  · cases h

theorem Shape.of_numberBody {body : Str} (h : Num.numberBody body = true) : ∃ i m, Shape body i m := by
  unfold Num.numberBody at h
  rcases hs : spanDigits body with ⟨d, r⟩
  obtain ⟨rfl, hd, hr⟩ := spanDigits_inv _ hs
  rw [hs] at h
  rcases hr with rfl | ⟨c, r', rfl, hc⟩
  · have hne : d ≠ [] := by rintro rfl; simp at h
    exact ⟨_, _, by simpa using Shape.int d hd hne⟩
  · by_cases hdot : c = '.'
    · subst hdot
      rcases hs' : spanDigits r' with ⟨f, r''⟩
      obtain ⟨rfl, hf, _⟩ := spanDigits_inv _ hs'
      have : r'' = [] ∧ (d ≠ [] ∨ f ≠ []) := by cases d <;> simp [hs'] at h <;> simp [h]
      exact ⟨_, _, by simpa [this.1] using Shape.dec d f hd hf this.2⟩
    · simp [hdot] at h
      obtain ⟨hne, hsep, h⟩ := h
      rcases htd : twoDigits r' with _ | r2
      · simp [htd] at h
      obtain ⟨a, b, rfl, ha, hb⟩ := twoDigits_inv htd
      simp only [htd] at h
      -- after the two digits: the end or a fraction (`optFracEnd r2` in both branches of the `match`), or once more
      -- a separator and two digits
      by_cases hfe : optFracEnd r2 = true
      · obtain ⟨v, hv⟩ := LF.of_optFracEnd hfe a b
        exact ⟨_, _, .s2 d c a b r2 v hd hne hsep ha hb hv⟩
      · rcases r2 with _ | ⟨c2, r3⟩
        · exact absurd rfl hfe
        · by_cases hdot2 : c2 = '.'
          · subst hdot2; exact absurd h hfe
          · simp at h
            obtain ⟨hsep2, h⟩ := h
            rcases htd2 : twoDigits r3 with _ | r4
            · simp [htd2] at h
            obtain ⟨a2, b2, rfl, ha2, hb2⟩ := twoDigits_inv htd2
            simp only [htd2] at h
            obtain ⟨v, hv⟩ := LF.of_optFracEnd h a2 b2
            exact ⟨_, _, .s3 d c a b c2 a2 b2 r4 v hd hne hsep ha hb hsep2 ha2 hb2 hv⟩

theorem shaped {sg body : Str} {i m} (hsg : sg = [] ∨ sg = ['-'] ∨ sg = ['+']) (hs : Shape body i m) :
    numberCore (sg ++ body) = true ∧ denote (sg ++ body) = some (if sg = ['-'] then -m else m) ∧
      ∀ A, strToNumCore A (sg ++ body) = .ok (shapeResult A (decide (sg = ['-'])) i m) := by
  have hstrip : stripSign (sg ++ body) = (decide (sg = ['-']), body) := by
    rcases hsg with rfl | rfl | rfl
    · exact stripSign_other (fun r hr => (hs.head _ _ hr).1 rfl) (fun r hr => (hs.head _ _ hr).2 rfl)
    · rfl
    · rfl
  refine ⟨?_, ?_, fun A => ?_⟩
  · rw [numberCore_eq, hstrip]; exact hs.numberBody
  · rw [denote_eq, hstrip, hs.denBody]; simp
  · rw [strToNumCore_eq, hstrip, hs.strBody]

theorem stripSign_spec (x : Str) : ∃ sg, (sg = [] ∨ sg = ['-'] ∨ sg = ['+']) ∧ x = sg ++ (stripSign x).2 := by
  unfold stripSign
  split
  · exact ⟨['-'], by simp, rfl⟩
  · exact ⟨['+'], by simp, rfl⟩
  · exact ⟨[], by simp, rfl⟩

theorem Shape.of_numberCore {x : Str} (h : numberCore x = true) :
    ∃ sg body i m, (sg = [] ∨ sg = ['-'] ∨ sg = ['+']) ∧ x = sg ++ body ∧ Shape body i m := by
  rw [numberCore_eq] at h
  obtain ⟨i, m, hs⟩ := Shape.of_numberBody h
  obtain ⟨sg, hsg, hx⟩ := stripSign_spec x
  exact ⟨sg, _, i, m, hsg, hx, hs⟩

theorem numberOk_of_core {x : Str} (h : numberCore x = true) : numberOk x = true := by
  simp [numberOk, h]

end Indi.Num
