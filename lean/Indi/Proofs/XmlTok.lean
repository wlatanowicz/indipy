/-
  The parser automaton on the tokens a writer produces: names, white space, references, single characters of
  attribute values and of character data, `name =`, the end of a start tag, indentation, end tags.

  Three notions carry the later files.  `Esc plain c x`: an escaping function sends `c` to itself (then `plain c`) or
  to a reference `&r;` with `RefTo c r`; one such fact gives both what the automaton reads and that no `<` is written.
  `ReadsText br x t br'`: the automaton reads `x` as the character data `t`, `br`, `br'` pending `]` before and after;
  it composes by `ReadsText.append`.  `Doc.noLt x`: no `<` in `x`, which is what lets `noBangQ` pass over a piece of
  output.  The vocabulary of Spec/Xml.lean is taken apart by `textOk_iff`, `nodupKeys_iff`, `attrsOk_facts`,
  `elem1Ok_iff`, `elemOk_iff`.

  Automaton states are written out as `⟨mode, stack, done, cr⟩` (frames as `⟨tag, attrs, text, kids, hasKid⟩`)
  so that single steps on literal characters close by `rfl`.
-/
import Indi.Spec.Xml
namespace Indi.Xml

theorem run_append (st : St) (a b : Str) : run st (a ++ b) = run (run st a) b := by
  simp [run, List.foldl_append]

@[simp] theorem run_nil (st : St) : run st [] = st := rfl
@[simp] theorem run_cons (st : St) (c : Char) (cs : Str) : run st (c :: cs) = run (step st c) cs := rfl

theorem run_fixed (st : St) (x : Str) (h : ∀ c ∈ x, step st c = st) : run st x = st := by
  induction x with
  | nil => rfl
  | cons c cs ih => rw [run_cons, h c (List.mem_cons_self ..), ih fun d hd => h d (List.mem_cons_of_mem _ hd)]

theorem run_collect (M : Str → Mode) (stk d cr) (x : Str)
    (h : ∀ c ∈ x, ∀ acc, step ⟨M acc, stk, d, cr⟩ c = ⟨M (c :: acc), stk, d, cr⟩) (acc : Str) :
    run ⟨M acc, stk, d, cr⟩ x = ⟨M (x.reverse ++ acc), stk, d, cr⟩ := by
  induction x generalizing acc with
  | nil => rfl
  | cons c cs ih =>
    rw [run_cons, h c (List.mem_cons_self ..), ih fun d hd => h d (List.mem_cons_of_mem _ hd)]
    simp

theorem ne_of_class {p : Char → Bool} {c : Char} (h : p c = true) (d : Char) (hd : p d = false := by decide) : c ≠ d :=
  fun e => by rw [e, hd] at h; cases h

theorem nameStart_nameChar (c : Char) (h : nameStart c = true) : nameChar c = true := by
  simp [nameChar, h]

theorem nameChar_facts (c : Char) (h : nameChar c = true) :
    xmlChar c = true ∧ nameUns c = false ∧ isS c = false ∧ c ≠ '>' ∧ c ≠ '/' ∧ c ≠ '=' ∧ c ≠ '!' ∧ c ≠ '?' ∧ c ≠ '<' := by
  simp [nameChar, nameStart, isAlpha, isDigit, xmlChar, nameUns, isS, Char.le_def, UInt32.le_iff_toNat_le, ← Char.toNat_inj] at *
  omega

theorem isDigit_xmlChar (c : Char) (h : isDigit c = true) : xmlChar c = true := by
  simp [isDigit, xmlChar, Char.le_def, UInt32.le_iff_toNat_le] at *
  omega

theorem isS_facts (c : Char) (h : isS c = true) : xmlChar c = true ∧ nameUns c = false ∧ nameChar c = false := by
  simp [isS] at h
  rcases h with ((rfl | rfl) | rfl) | rfl <;> decide

theorem all_cons {p : Char → Bool} {c : Char} {cs : Str} (h : (c :: cs).all p = true) :
    p c = true ∧ cs.all p = true := by
  simpa using h

theorem textOk_iff (t : Str) : textOk t = true ↔ ∀ c ∈ t, xmlChar c = true ∧ c ≠ '\r' := by
  simp only [textOk, safeChars, Bool.and_eq_true, List.all_eq_true, Bool.not_eq_true', List.contains_eq_mem,
    decide_eq_false_iff_not]
  constructor
  · rintro ⟨h1, h2⟩ c hc
    exact ⟨h1 c hc, fun e => h2 (e ▸ hc)⟩
  · intro h
    exact ⟨fun c hc => (h c hc).1, fun hc => (h _ hc).2 rfl⟩

theorem textOk_cons (c : Char) (t : Str) (h : textOk (c :: t) = true) :
    xmlChar c = true ∧ c ≠ '\r' ∧ textOk t = true := by
  rw [textOk_iff] at h ⊢
  exact ⟨(h c (List.mem_cons_self ..)).1, (h c (List.mem_cons_self ..)).2, fun d hd => h d (List.mem_cons_of_mem _ hd)⟩

/-- the modes in which white space changes nothing -/
def skipsWs : Mode → Bool
  | .misc | .attrEq _ | .attrQuote _ | .endSpace _ => true
  | .tagSpace sawS => sawS
  | _ => false

theorem run_ws {m : Mode} (hm : skipsWs m = true) {ws : Str} (h : ws.all isS = true) (stk d cr) :
    run ⟨m, stk, d, cr⟩ ws = ⟨m, stk, d, cr⟩ := by
  refine run_fixed _ _ fun c hc => ?_
  have hs := List.all_eq_true.mp h c hc
  cases m <;> cases hm <;> simp [step, stepMode, hs, (isS_facts c hs).1]

theorem run_tagSpace_ws {ws : Str} (h : ws.all isS = true) (b stk d cr) :
    run ⟨.tagSpace b, stk, d, cr⟩ ws = ⟨.tagSpace (b || !ws.isEmpty), stk, d, cr⟩ := by
  cases ws with
  | nil => simp
  | cons c cs =>
    obtain ⟨h1, h2⟩ := all_cons h
    have : step ⟨.tagSpace b, stk, d, cr⟩ c = ⟨.tagSpace true, stk, d, cr⟩ := by
      simp [step, stepMode, h1, (isS_facts c h1).1]
    rw [run_cons, this, run_ws rfl h2]
    simp

theorem isName_facts (n : Str) (h : isName n = true) :
    ∃ c cs, n = c :: cs ∧ nameStart c = true ∧ cs.all nameChar = true := by
  cases n with
  | nil => simp [isName] at h
  | cons c cs => simp [isName] at h; exact ⟨c, cs, rfl, h.1, by simpa using h.2⟩

theorem isName_all (n : Str) (h : isName n = true) : n.all nameChar = true := by
  obtain ⟨c, cs, rfl, h1, h2⟩ := isName_facts n h
  simp [nameStart_nameChar c h1]
  simpa using h2

theorem run_name (M : Str → Mode) (hM : M = .tagName ∨ M = .attrName ∨ M = .endName)
    (n : Str) (h : n.all nameChar = true) (acc stk d cr) :
    run ⟨M acc, stk, d, cr⟩ n = ⟨M (n.reverse ++ acc), stk, d, cr⟩ := by
  refine run_collect M stk d cr n (fun c hc acc => ?_) acc
  have h0 := List.all_eq_true.mp h c hc
  rcases hM with rfl | rfl | rfl <;> simp [step, stepMode, h0, nameChar_facts c h0]

theorem run_lt_name (n : Str) (h : isName n = true) (b stk cr) :
    run ⟨.lt b, stk, none, cr⟩ n = ⟨.tagName n.reverse, stk, none, cr⟩ := by
  obtain ⟨c, cs, rfl, h1, h2⟩ := isName_facts n h
  have hc := nameStart_nameChar c h1
  have : step ⟨.lt b, stk, none, cr⟩ c = ⟨.tagName [c], stk, none, cr⟩ := by
    simp [step, stepMode, h1, nameChar_facts c hc]
  simp [this, run_name .tagName (.inl rfl) cs h2]

theorem digit_ofNat : ∀ k < 10, isDigit (Char.ofNat (48 + k)) = true ∧ decVal (Char.ofNat (48 + k)) = k := by
  decide

theorem decDigits_spec (n : Nat) :
    (decDigits n).all isDigit = true ∧ decDigits n ≠ [] ∧
    (decDigits n).foldl (fun a c => a * 10 + decVal c) 0 = n := by
  induction n using Nat.strongRecOn with
  | _ n ih =>
    unfold decDigits
    split
    · rename_i h
      simp [digit_ofNat n h]
    · rename_i h
      obtain ⟨h1, h2, h3⟩ := ih (n / 10) (by omega)
      simp [h1, h3, List.foldl_append, digit_ofNat (n % 10) (by omega)]
      omega

theorem parseDec_decDigits (n : Nat) : parseDec (decDigits n) = some n := by
  obtain ⟨h1, h2, h3⟩ := decDigits_spec n
  unfold parseDec
  split
  · contradiction
  · simp [h1, h3]

theorem charOfRef_toNat (c : Char) (h : xmlChar c = true) : charOfRef c.toNat = some c := by
  have : c.toNat < 0x110000 := by simp [xmlChar] at h; omega
  simp [charOfRef, Char.ofNat_toNat, h, this]

theorem decodeRef_dec (ds : Str) (h1 : ds.all isDigit = true) (h2 : ds ≠ []) :
    decodeRef ('#' :: ds) = (parseDec ds).bind charOfRef := by
  cases ds with
  | nil => contradiction
  | cons d ds =>
    have hx : d ≠ 'x' := ne_of_class (all_cons h1).1 'x'
    unfold decodeRef
    split <;> simp_all

/-! Every escaping function of the writers sends a character to itself or to a reference `&r;` to it (`Esc`).  One
lemma per escaping function (`escAttrChar_esc`, ...) then gives both what the automaton does with its output and that
the output contains no `<`. -/

def refStr (r : Str) : Str := '&' :: (r ++ [';'])

/-- `&r;` is a reference to `c` that the automaton reads in one piece (no `;` inside) and that has no `<` in it -/
def RefTo (c : Char) (r : Str) : Prop :=
  decodeRef r = some c ∧ ∀ d ∈ r, xmlChar d = true ∧ d ≠ ';' ∧ d ≠ '<'

instance (c : Char) (r : Str) : Decidable (RefTo c r) := by unfold RefTo; infer_instance

theorem refTo_charRef (c : Char) (h : xmlChar c = true) : RefTo c ('#' :: decDigits c.toNat) := by
  obtain ⟨h1, h2, _⟩ := decDigits_spec c.toNat
  refine ⟨?_, fun d hd => ?_⟩
  · rw [decodeRef_dec _ h1 h2, parseDec_decDigits]
    simp [charOfRef_toNat c h]
  · rcases List.mem_cons.mp hd with rfl | hd
    · decide
    · have hd := List.all_eq_true.mp h1 d hd
      exact ⟨isDigit_xmlChar d hd, ne_of_class hd ';', ne_of_class hd '<'⟩

def Esc (plain : Char → Prop) (c : Char) (x : Str) : Prop :=
  (x = [c] ∧ plain c) ∨ ∃ r, x = refStr r ∧ RefTo c r

/-- the equation is a hypothesis so that, for a literal `x`, the kernel decides it together with `RefTo` -/
theorem Esc.ref {plain : Char → Prop} {c : Char} {x : Str} (r : Str) (h : x = refStr r ∧ RefTo c r) : Esc plain c x :=
  .inr ⟨r, h.1, h.2⟩

/-- one link of an escaping function's chain of tests -/
theorem Esc.ite {plain : Char → Prop} {c d : Char} {x y : Str} (r : Str) (hr : x = refStr r ∧ RefTo d r)
    (h : c ≠ d → Esc plain c y) : Esc plain c (if c = d then x else y) :=
  iteInduction (fun e => e ▸ .ref r hr) h

theorem run_refBody (M : Str → Mode) (hM : (∃ name q acc, M = .attrRef name q acc) ∨ M = .textRef)
    (r : Str) (h : ∀ d ∈ r, xmlChar d = true ∧ d ≠ ';' ∧ d ≠ '<') (stk d cr) :
    run ⟨M [], stk, d, cr⟩ r = ⟨M r.reverse, stk, d, cr⟩ := by
  have := run_collect M stk d cr r (fun c hc acc => ?_) []
  · simpa using this
  · obtain ⟨h1, h2, -⟩ := h c hc
    rcases hM with ⟨name, q, a, rfl⟩ | rfl <;> simp [step, stepMode, h1, h2]

/-- what may stand as itself inside an attribute value quoted by `q` -/
def plainAttr (q c : Char) : Prop := c ≠ q ∧ c ≠ '<' ∧ c ≠ '&' ∧ c ≠ '\r' ∧ c ≠ '\n' ∧ c ≠ '\t'

theorem run_attr_esc (q : Char) (hq : q = '"' ∨ q = '\'') (c : Char) (hc : xmlChar c = true) (x : Str)
    (h : Esc (plainAttr q) c x) (name acc stk d) :
    run ⟨.attrVal name q acc, stk, d, false⟩ x = ⟨.attrVal name q (c :: acc), stk, d, false⟩ := by
  rcases h with ⟨rfl, h1, h2, h3, h4, h5, h6⟩ | ⟨r, rfl, hr, hb⟩
  · simp [step, stepMode, *]
  · have s1 : step ⟨.attrVal name q acc, stk, d, false⟩ '&' = ⟨.attrRef name q acc [], stk, d, false⟩ := by
      rcases hq with rfl | rfl <;> rfl
    have s3 : step ⟨.attrRef name q acc r.reverse, stk, d, false⟩ ';' = ⟨.attrVal name q (c :: acc), stk, d, false⟩ := by
      have : xmlChar ';' = true := by decide
      simp [step, stepMode, this, hr]
    rw [refStr, run_cons, s1, run_append, run_refBody (.attrRef name q acc) (.inl ⟨_, _, _, rfl⟩) r hb, run_cons, s3, run_nil]

/-- the automaton reads `x` as the character data `t` of an open element that has no child yet, whatever else the
state holds; `br`, `br'` count the `]` pending before and after -/
def ReadsText (br : Nat) (x t : Str) (br' : Nat) : Prop :=
  ∀ tg ats tx kd stk d, run ⟨.text br, ⟨tg, ats, tx, kd, false⟩ :: stk, d, false⟩ x =
    ⟨.text br', ⟨tg, ats, tx ++ t, kd, false⟩ :: stk, d, false⟩

theorem ReadsText.nil (br : Nat) : ReadsText br [] [] br := by simp [ReadsText]

theorem ReadsText.append {b b' b'' : Nat} {x y t u : Str} (h1 : ReadsText b x t b') (h2 : ReadsText b' y u b'') :
    ReadsText b (x ++ y) (t ++ u) b'' := by
  intro tg ats tx kd stk d
  rw [run_append, h1, h2, List.append_assoc]

theorem readsText_bracket (br : Nat) : ReadsText br [']'] [']'] (if br ≥ 2 then 2 else br + 1) :=
  fun _ _ _ _ _ _ => rfl

/-- what may stand as itself in character data whatever precedes it.  `>` is excluded because after `]]` it may not; a
writer that leaves `>` raw (`escTextRaw`) goes through `step_text_plain` with the count of pending `]` instead
(`run_escTextRaw`). -/
def plainText (c : Char) : Prop := c ≠ '<' ∧ c ≠ '&' ∧ c ≠ '\r' ∧ c ≠ '>'

theorem step_text_plain (c : Char) (hx : xmlChar c = true) (h1 : c ≠ '<') (h2 : c ≠ '&') (h3 : c ≠ ']') (h4 : c ≠ '\r')
    (br : Nat) (hgt : c = '>' → br < 2) : ReadsText br [c] [c] 0 := by
  intro tg ats tx kd stk d
  by_cases hg : c = '>'
  · subst hg
    have : ¬ (2 ≤ br) := by have := hgt rfl; omega
    simp [step, stepMode, St.emit, this, hx]
  · simp [step, stepMode, St.emit, *]

theorem run_text_ref (c : Char) (r : Str) (h : RefTo c r) (br : Nat) : ReadsText br (refStr r) [c] 0 := by
  intro tg ats tx kd stk d
  obtain ⟨hr, hb⟩ := h
  have s1 : step ⟨.text br, ⟨tg, ats, tx, kd, false⟩ :: stk, d, false⟩ '&' =
      ⟨.textRef [], ⟨tg, ats, tx, kd, false⟩ :: stk, d, false⟩ := rfl
  have s3 : step ⟨.textRef r.reverse, ⟨tg, ats, tx, kd, false⟩ :: stk, d, false⟩ ';' =
      ⟨.text 0, ⟨tg, ats, tx ++ [c], kd, false⟩ :: stk, d, false⟩ := by
    have : xmlChar ';' = true := by decide
    simp [step, stepMode, this, St.emit, hr]
  rw [refStr, run_cons, s1, run_append, run_refBody .textRef (.inr rfl) r hb, run_cons, s3, run_nil]

theorem run_text_esc (c : Char) (hc : xmlChar c = true) (x : Str) (h : Esc plainText c x) (br : Nat) :
    ReadsText br x [c] (if x = [']'] then (if br ≥ 2 then 2 else br + 1) else 0) := by
  rcases h with ⟨rfl, h1, h2, h3, h4⟩ | ⟨r, rfl, hr⟩
  · by_cases hb : c = ']'
    · subst hb; exact readsText_bracket br
    · rw [if_neg (by simpa using hb)]
      exact step_text_plain c hc h1 h2 hb h3 br (fun e => absurd e h4)
  · rw [if_neg (by simp [refStr])]
    exact run_text_ref c r hr br

theorem step_attrName_eq (acc f stk d cr) (hx : acc.reverse ≠ s "xmlns")
    (hd : (f.attrs.any fun kv => kv.1 = acc.reverse) = false) :
    step ⟨.attrName acc, f :: stk, d, cr⟩ '=' = ⟨.attrQuote acc.reverse, f :: stk, d, cr⟩ := by
  have h1 : xmlChar '=' = true := by decide
  have h2 : nameUns '=' = false := by decide
  have h3 : nameChar '=' = false := by decide
  have h4 : isS '=' = false := by decide
  simp [step, stepMode, St.dupAttr, h1, h2, h3, h4, hx, hd]

theorem run_attrName_eq {ws : Str} (hws : ws.all isS = true) {acc : Str} {f : Frame} (hx : acc.reverse ≠ s "xmlns")
    (hd : (f.attrs.any fun kv => kv.1 = acc.reverse) = false) (stk d cr) (rest : Str) :
    run ⟨.attrName acc, f :: stk, d, cr⟩ (ws ++ '=' :: rest) = run ⟨.attrQuote acc.reverse, f :: stk, d, cr⟩ rest := by
  cases ws with
  | nil => rw [List.nil_append, run_cons, step_attrName_eq acc f stk d cr hx hd]
  | cons w ws =>
    obtain ⟨h1, h2⟩ := all_cons hws
    have s1 : step ⟨.attrName acc, f :: stk, d, cr⟩ w = ⟨.attrEq acc.reverse, f :: stk, d, cr⟩ := by
      simp [step, stepMode, St.dupAttr, isS_facts w h1, h1, hx, hd]
    have s2 : step ⟨.attrEq acc.reverse, f :: stk, d, cr⟩ '=' = ⟨.attrQuote acc.reverse, f :: stk, d, cr⟩ := rfl
    rw [List.cons_append, run_cons, s1, run_append, run_ws rfl h2, run_cons, s2]

theorem nodupKeys_iff (l : List (Str × Str)) :
    nodupKeys l = true ↔ l.Pairwise (fun a b => a.1 ≠ b.1) := by
  induction l with
  | nil => simp [nodupKeys]
  | cons kv l ih =>
    simp only [nodupKeys, Bool.and_eq_true, ih, List.pairwise_cons]
    constructor
    · rintro ⟨h1, h2⟩
      refine ⟨fun b hb e => ?_, h2⟩
      simp at h1
      exact h1 b.1 b.2 hb e.symm
    · rintro ⟨h1, h2⟩
      refine ⟨?_, h2⟩
      simp
      exact fun a b hab e => h1 (a, b) hab e.symm

theorem attrsOk_facts (l : List (Str × Str)) (h : attrsOk l = true) :
    (∀ kv ∈ l, isName kv.1 = true ∧ kv.1 ≠ s "xmlns" ∧ safeChars kv.2 = true) ∧ l.Pairwise (fun a b => a.1 ≠ b.1) := by
  simp [attrsOk] at h
  refine ⟨fun kv hkv => ?_, (nodupKeys_iff l).mp h.2⟩
  obtain ⟨⟨a, b⟩, c⟩ := h.1 kv.1 kv.2 hkv
  exact ⟨a, b, c⟩

theorem elem1Ok_iff (c : Elem1) :
    elem1Ok c = true ↔ isName c.tag = true ∧ attrsOk c.attrs = true ∧ textOk c.text = true := by
  simp only [elem1Ok, Bool.and_eq_true, and_assoc]

theorem elemOk_iff (e : Elem) :
    elemOk e = true ↔
      isName e.tag = true ∧ attrsOk e.attrs = true ∧ textOk e.text = true ∧ e.children.all elem1Ok = true := by
  simp only [elemOk, Bool.and_eq_true, and_assoc]

/-- the character that ends a tag name is read as if the element were open already and the automaton in
`.tagSpace true`, so that a start tag is followed from `.tagSpace` whatever comes after the name (`run_open`) -/
theorem step_tagName_open {c : Char} (h : isS c = true ∨ c = '>' ∨ c = '/') (acc stk d cr) :
    step ⟨.tagName acc, stk, d, cr⟩ c = step ⟨.tagSpace true, ⟨acc.reverse, [], [], [], false⟩ :: stk, d, false⟩ c := by
  rcases h with h | rfl | rfl
  · simp [step, stepMode, St.openTag, isS_facts c h, h]
  · rfl
  · rfl

/-- a carriage return would be read as a line feed -/
theorem readsText_ws {ws : Str} (h : ws.all isS = true) (hr : ws.contains '\r' = false) (br : Nat) :
    ∃ br', ReadsText br ws ws br' := by
  induction ws generalizing br with
  | nil => exact ⟨br, .nil br⟩
  | cons c cs ih =>
    obtain ⟨h1, h2⟩ := all_cons h
    simp only [List.contains_cons, Bool.or_eq_false_iff, beq_eq_false_iff_ne, ne_eq] at hr
    obtain ⟨b, e⟩ := ih h2 hr.2 0
    exact ⟨b, (step_text_plain c (isS_facts c h1).1 (ne_of_class h1 '<') (ne_of_class h1 '&') (ne_of_class h1 ']')
      (fun e => hr.1 e.symm) br (fun e => absurd e (ne_of_class h1 '>'))).append e⟩

theorem step_text_ws_kid (c : Char) (h : isS c = true) (br tg ats tx kd stk d cr) :
    ∃ br' cr', step ⟨.text br, ⟨tg, ats, tx, kd, true⟩ :: stk, d, cr⟩ c =
      ⟨.text br', ⟨tg, ats, tx, kd, true⟩ :: stk, d, cr'⟩ := by
  simp [isS] at h
  rcases h with ((rfl | rfl) | rfl) | rfl <;> cases cr <;> exact ⟨_, _, rfl⟩

theorem run_indent {ws : Str} (h : ws.all isS = true) {hk : Bool} (hf : hk = false → ws.contains '\r' = false)
    (br tg ats tx kd stk d) (rest : Str) :
    run ⟨.text br, ⟨tg, ats, tx, kd, hk⟩ :: stk, d, false⟩ (ws ++ '<' :: rest) =
      run ⟨.lt false, ⟨tg, ats, if hk then tx else tx ++ ws, kd, hk⟩ :: stk, d, false⟩ rest := by
  cases hk with
  | true =>
    clear hf
    -- a carriage return may be pending on the way
    suffices ∀ br cr, run ⟨.text br, ⟨tg, ats, tx, kd, true⟩ :: stk, d, cr⟩ (ws ++ '<' :: rest) =
        run ⟨.lt false, ⟨tg, ats, tx, kd, true⟩ :: stk, d, false⟩ rest from this br false
    induction ws with
    | nil => exact fun _ _ => rfl
    | cons c cs ih =>
      intro br cr
      obtain ⟨h1, h2⟩ := all_cons h
      obtain ⟨b', c', e⟩ := step_text_ws_kid c h1 br tg ats tx kd stk d cr
      rw [List.cons_append, run_cons, e, ih h2]
  | false =>
    obtain ⟨b, e⟩ := readsText_ws h (hf rfl) br
    rw [run_append, e, run_cons]
    rfl

theorem close_mode_irrel (m : Mode) (f stk d cr) : St.close ⟨m, f :: stk, d, cr⟩ = St.close ⟨.misc, f :: stk, d, cr⟩ := by
  cases stk <;> rfl

theorem run_endTag {ws : Str} (hws : ws.all isS = true) {f : Frame} (ht : isName f.tag = true) (stk d) :
    run ⟨.lt false, f :: stk, d, false⟩ ('/' :: (f.tag ++ (ws ++ ['>']))) = St.close ⟨.misc, f :: stk, d, false⟩ := by
  have s2 : step ⟨.lt false, f :: stk, d, false⟩ '/' = ⟨.endName [], f :: stk, d, false⟩ := rfl
  have hx : xmlChar '>' = true := by decide
  have hu : nameUns '>' = false := by decide
  have hn : nameChar '>' = false := by decide
  have hs : isS '>' = false := by decide
  rw [run_cons, s2, run_append, run_name .endName (.inr (.inr rfl)) f.tag (isName_all _ ht), List.append_nil]
  cases ws with
  | nil =>
    have s3 : step ⟨.endName f.tag.reverse, f :: stk, d, false⟩ '>' = St.close ⟨.endName f.tag.reverse, f :: stk, d, false⟩ := by
      simp [step, stepMode, hx, hu, hn, hs]
    rw [List.nil_append, run_cons, s3, run_nil, close_mode_irrel]
  | cons w ws =>
    obtain ⟨h1, h2⟩ := all_cons hws
    have s3 : step ⟨.endName f.tag.reverse, f :: stk, d, false⟩ w = ⟨.endSpace f.tag, f :: stk, d, false⟩ := by
      simp [step, stepMode, isS_facts w h1, h1]
    have s4 : step ⟨.endSpace f.tag, f :: stk, d, false⟩ '>' = St.close ⟨.endSpace f.tag, f :: stk, d, false⟩ := by
      simp [step, stepMode, hx, hs]
    rw [List.cons_append, run_cons, s3, run_append, run_ws rfl h2, run_cons, s4, run_nil, close_mode_irrel]

theorem ends_not_gt (X : Str) (hne : X ≠ []) (h : ∀ c ∈ X, c ≠ '>') :
    ∃ pre c, X ++ ['>'] = pre ++ [c, '>'] ∧ c ≠ '>' := by
  refine ⟨X.dropLast, X.getLast hne, ?_, h _ (List.getLast_mem hne)⟩
  conv => lhs; rw [← List.dropLast_concat_getLast hne]
  simp

namespace Doc

def noLt (x : Str) : Bool := x.all (· != '<')

theorem noLt_append (a b : Str) : noLt (a ++ b) = (noLt a && noLt b) := by simp [noLt]
theorem noLt_cons (c : Char) (x : Str) : noLt (c :: x) = (c != '<' && noLt x) := by simp [noLt]

theorem noLt_of_forall (x : Str) (h : ∀ c ∈ x, c ≠ '<') : noLt x = true := by
  simpa [noLt] using h

theorem noLt_flatMap {α : Type} (f : α → Str) (l : List α) (h : ∀ a ∈ l, noLt (f a) = true) : noLt (l.flatMap f) = true := by
  simp only [noLt, List.all_flatMap, List.all_eq_true]
  exact fun a ha => List.all_eq_true.mp (h a ha)

theorem noLt_ws (ws : Str) (h : ws.all isS = true) : noLt ws = true :=
  noLt_of_forall _ fun c hc => ne_of_class (List.all_eq_true.mp h c hc) '<'

theorem isName_noLt {t : Str} (h : isName t = true) : noLt t = true :=
  noLt_of_forall _ fun c hc => ne_of_class (List.all_eq_true.mp (isName_all t h) c hc) '<'

theorem noLt_esc {plain : Char → Prop} (hp : ∀ c, plain c → c ≠ '<') (c : Char) (x : Str) (h : Esc plain c x) :
    noLt x = true := by
  rcases h with ⟨rfl, h⟩ | ⟨r, rfl, -, hb⟩
  · simpa [noLt] using hp c h
  · refine noLt_of_forall _ fun d hd => ?_
    simp only [refStr, List.mem_cons, List.mem_append, List.not_mem_nil, or_false] at hd
    rcases hd with rfl | hd | rfl
    · decide
    · exact (hb d hd).2.2
    · decide

end Doc

end Indi.Xml
