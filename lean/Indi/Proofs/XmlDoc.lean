/-
  Document-level facts about the parser automaton: reachable-state invariants, the epilog, and the two facts
  framing (C02) needs — whatever parses contains the root's opener, and no proper prefix of a document that ends
  with `>` and has no `<!`, `<?` in it is a complete document (`parseDoc_take`).

  The case analysis over the automaton's modes is done once, in `Indi.Proofs.XmlDocStep` (`step_trans`).
-/
import Indi.Proofs.XmlDocStep
import Indi.Generated.Consts

namespace Indi.Xml
open Indi

namespace Doc

/-- the opener `<T` stands somewhere in `x` -/
def Contains (x T : Str) : Prop := ∃ a b, x = a ++ '<' :: T ++ b

theorem Contains.append {x T : Str} (h : Contains x T) (y : Str) : Contains (x ++ y) T := by
  obtain ⟨a, b, rfl⟩ := h
  exact ⟨a, b ++ y, by simp⟩

/-- `T` is the tag of the root element: of the finished one, or else of the outermost element still open -/
def RootIs (st : St) (T : Str) : Prop := (∃ e, st.done = some e ∧ e.tag = T) ∨ (tags st).getLast? = some T

theorem rootIs_close (st : St) (T : Str) (h : RootIs st.close T) : RootIs st T := by
  obtain ⟨mode, stack, done, cr⟩ := st
  revert h
  unfold St.close
  -- closing fails (nothing changes), finishes the root (`done.tag` is the last tag, the stack becomes empty) or pops an
  -- inner frame (the outermost tag stays)
  split <;> simp_all [RootIs, tags, St.fail]

/-- what the input `x` read so far shows of the state: the opener of the root (finished, or outermost open), and the
`<` or `<name` of a start tag being read -/
structure Opener (x : Str) (st : St) : Prop where
  root : ∀ T, RootIs st T → Contains x T
  lt : ∀ b, st.mode = .lt b → ∃ pre, x = pre ++ ['<']
  tn : ∀ acc, st.mode = .tagName acc → ∃ pre, x = pre ++ '<' :: acc.reverse

theorem opener_init : Opener [] init := by
  constructor <;> simp [init, RootIs, tags]

theorem opener_step (x : Str) (st : St) (c : Char) (h : Opener x st) : Opener (x ++ [c]) (step st c) := by
  obtain ⟨hlt, htn, heff⟩ := step_trans st c
  refine ⟨?_, ?_, ?_⟩
  · intro T hT
    rcases heff with ⟨hd, ht⟩ | ⟨acc, hm, hd, ht⟩ | hc
    · exact (h.root T (by simpa [RootIs, hd, ht] using hT)).append _
    · rcases hT with ⟨e, he, rfl⟩ | hT
      · exact (h.root _ (Or.inl ⟨e, by rw [← hd]; exact he, rfl⟩)).append _
      · rw [ht, List.getLast?_cons] at hT
        cases hl : (tags st).getLast? with
        | none =>
          obtain ⟨pre, rfl⟩ := h.tn acc hm
          rw [hl] at hT
          cases hT
          exact ⟨pre, [c], by simp⟩
        | some T' =>
          rw [hl] at hT
          cases hT
          exact (h.root _ (Or.inr hl)).append _
    · rw [hc] at hT
      exact (h.root T (rootIs_close st T hT)).append _
  · intro b hb
    exact ⟨x, by rw [hlt b hb]⟩
  · intro acc hacc
    rcases htn acc hacc with ⟨b, hm, rfl, -⟩ | ⟨acc', hm, rfl⟩
    · obtain ⟨pre, rfl⟩ := h.lt b hm
      exact ⟨pre, by simp⟩
    · obtain ⟨pre, rfl⟩ := h.tn acc' hm
      exact ⟨pre, by simp⟩

theorem opener_run (y : Str) : ∀ (x : Str) (st : St), Opener x st → Opener (x ++ y) (run st y) := by
  induction y with
  | nil => intro x st h; simpa [run_nil] using h
  | cons c cs ih =>
    intro x st h
    have := ih (x ++ [c]) (step st c) (opener_step x st c h)
    simpa [run_cons] using this

theorem finish_ok {st : St} {e : Elem} (h : finish st = .ok e) : st.mode = .misc ∧ st.done = some e := by
  unfold finish at h
  split at h
  · cases h
  · split at h
    · simp_all
    · cases h
  · cases h

/-- what holds of every state reached from `init`: once the root is finished nothing is open, and a tag name is being
read only while no root is finished (a second root is refused at its first character) -/
structure Inv (st : St) : Prop where
  done_stack : st.done.isSome → st.stack = []
  tn : ∀ acc, st.mode = .tagName acc → st.done = none

theorem inv_init : Inv init := by
  constructor <;> simp [init]

theorem inv_close (st : St) (h : Inv st) : st.close.done.isSome → st.close.stack = [] := by
  have := h.done_stack
  obtain ⟨mode, stack, done, cr⟩ := st
  unfold St.close
  -- closing fails (nothing changes), finishes the root (the stack becomes empty) or pops an inner frame (`done` is
  -- unchanged, and `none` by `h` since the stack was not empty)
  split <;> simp_all [St.fail]

theorem inv_step (st : St) (c : Char) (h : Inv st) : Inv (step st c) := by
  obtain ⟨-, htn, heff⟩ := step_trans st c
  have hold : ∀ acc, (step st c).mode = .tagName acc → st.done = none := fun acc hacc => by
    rcases htn acc hacc with ⟨b, -, -, hd⟩ | ⟨acc', hm, -⟩
    · exact hd
    · exact h.tn acc' hm
  rcases heff with ⟨hd, ht⟩ | ⟨acc, hm, hd, ht⟩ | hc
  · exact ⟨fun hs => by simpa [tags, h.done_stack (hd ▸ hs)] using ht, fun acc hacc => hd ▸ hold acc hacc⟩
  · exact ⟨fun hs => by simp [hd, h.tn acc hm] at hs, fun acc hacc => hd ▸ hold acc hacc⟩
  · rw [hc]
    exact ⟨inv_close st h, fun acc hacc => by simp at hacc⟩

theorem inv_run (y : Str) : ∀ st, Inv st → Inv (run st y) := by
  induction y with
  | nil => intro st h; exact h
  | cons c cs ih => intro st h; exact ih _ (inv_step st c h)

theorem run_misc_isS (st : St) (x : Str) (hm : st.mode = .misc) (hx : x.all isS = true) : run st x = st := by
  obtain ⟨m, stk, d, cr⟩ := st
  subst hm
  exact run_ws rfl hx ..

theorem noBangQ_tail (c : Char) (x : Str) (h : noBangQ (c :: x) = true) : noBangQ x = true := by
  cases x with
  | nil => rfl
  | cons d ds =>
    unfold noBangQ at h
    split at h <;> simp_all

theorem step_misc_dead (st : St) (c : Char) (hm : st.mode = .misc) (hc : isS c = false) (hlt : c ≠ '<') :
    Dead (step st c) := by
  by_cases hx : xmlChar c = true
  · simp [Dead, step, stepMode, hm, hx, hc, hlt, St.fail]
  · simp [Dead, step, hm, hx, St.fail]

theorem step_misc_lt (st : St) (hm : st.mode = .misc) : step st '<' = { st with mode := .lt false } := by
  have : xmlChar '<' = true := by decide
  have h2 : isS '<' = false := by decide
  simp [step, stepMode, hm, this, h2]

theorem step_lt_dead (st : St) (b : Bool) (d : Char) (hm : st.mode = .lt b) (hs : st.stack = []) (hd : st.done.isSome = true)
    (h1 : d ≠ '!') (h2 : d ≠ '?') : Dead (step st d) := by
  simp only [step, stepMode, hm]
  (repeat' (apply iteInduction <;> intro _)) <;> simp_all [Dead, St.fail, St.unsup]

theorem epilog (r : Str) : ∀ (st : St), st.mode = .misc → st.done.isSome = true → st.stack = [] → noBangQ r = true →
    (run st r).mode = .misc → r.all isS = true := by
  have dead : ∀ (st : St) (x : Str), Dead st → (run st x).mode ≠ .misc := by
    intro st x h
    rw [run_dead st x h]
    rcases h with h | h <;> simp [h]
  induction r with
  | nil => intros; rfl
  | cons c cs ih =>
    intro st hm hd hs hn hr
    cases hc : isS c with
    | true =>
      have : step st c = st := run_misc_isS st [c] hm (by simp [hc])
      rw [run_cons, this] at hr
      simp [hc, ih st hm hd hs (noBangQ_tail c cs hn) hr]
    | false =>
      exfalso
      rw [run_cons] at hr
      by_cases hlt : c = '<'
      · subst hlt
        rw [step_misc_lt st hm] at hr
        cases cs with
        | nil => rw [run_nil] at hr; cases hr
        | cons d ds =>
          rw [run_cons] at hr
          simp [noBangQ] at hn
          exact dead _ ds (step_lt_dead { st with mode := .lt false } false d rfl hs hd hn.1.1 hn.1.2) hr
      · exact dead _ cs (step_misc_dead st c hm hc hlt) hr

theorem noBangQ_cons_ne (c : Char) (x : Str) (h : c ≠ '<') : noBangQ (c :: x) = noBangQ x := by
  conv => lhs; unfold noBangQ
  split <;> simp_all

theorem noBangQ_lt_cons (c : Char) (x : Str) :
    noBangQ ('<' :: c :: x) = (c != '!' && c != '?' && noBangQ (c :: x)) := by
  rw [noBangQ]

theorem noBangQ_noLt_append (a b : Str) (h : noLt a = true) : noBangQ (a ++ b) = noBangQ b := by
  induction a with
  | nil => rfl
  | cons c cs ih =>
    rw [noLt_cons, Bool.and_eq_true, bne_iff_ne] at h
    rw [List.cons_append, noBangQ_cons_ne _ _ h.1]
    exact ih h.2

theorem nameStart_nameChar {c : Char} (h : nameStart c = true) : nameChar c = true :=
  Xml.nameStart_nameChar c h

theorem noBangQ_open (t rest : Str) (h : isName t = true) : noBangQ ('<' :: (t ++ rest)) = noBangQ rest := by
  have hl := isName_noLt h
  obtain ⟨c, cs, rfl, h1, -⟩ := isName_facts t h
  rw [List.cons_append, noBangQ_lt_cons, ← List.cons_append, noBangQ_noLt_append _ _ hl]
  simp [ne_of_class h1 '!', ne_of_class h1 '?']

theorem noBangQ_closeTag (t rest : Str) (h : isName t = true) : noBangQ ('<' :: '/' :: (t ++ rest)) = noBangQ rest := by
  rw [noBangQ_lt_cons, noBangQ_cons_ne _ _ (by decide), noBangQ_noLt_append _ _ (isName_noLt h)]
  simp

theorem noBangQ_append_right (a b : Str) (h : noBangQ (a ++ b) = true) : noBangQ b = true := by
  induction a with
  | nil => exact h
  | cons c cs ih => exact ih (noBangQ_tail c _ h)

end Doc
open Doc

/-- (A1) whatever parses as a document contains, somewhere, `<` followed by the root's tag -/
theorem parseDoc_opener (x : Str) (e : Elem) (h : parseDoc x = .ok e) :
    ∃ i, ('<' :: e.tag).isPrefixOf (x.drop i) = true := by
  obtain ⟨-, hd⟩ := finish_ok h
  have := opener_run x [] init opener_init
  obtain ⟨a, b, hx⟩ := this.root e.tag (Or.inl ⟨e, hd, rfl⟩)
  refine ⟨a.length, ?_⟩
  simp at hx
  rw [hx]
  simp

/-- once the root is closed only white space may follow (`epilog`), and the last character `>` is none -/
theorem parseDoc_take (x : Str) (hfull : (run init x).mode = .misc) (hn : noBangQ x = true)
    (hend : ∃ body, x = body ++ ['>']) (k : Nat) (hk : k < x.length) (e' : Elem) :
    parseDoc (x.take k) ≠ .ok e' := by
  intro hp
  obtain ⟨hm, hd⟩ := finish_ok hp
  have hinv := inv_run (x.take k) init inv_init
  rw [← List.take_append_drop k x, run_append] at hfull
  have hall := epilog (x.drop k) _ hm (by rw [hd]; rfl) (hinv.done_stack (by rw [hd]; rfl))
    (noBangQ_append_right (x.take k) _ (by rw [List.take_append_drop]; exact hn)) hfull
  obtain ⟨body, rfl⟩ := hend
  simp only [List.length_append, List.length_cons, List.length_nil] at hk
  rw [List.drop_append_of_le_length (by omega)] at hall
  simp [isS] at hall

/-- the declaration and the trailing newline `IndiMessage.to_string` writes (regenerated from the source) -/
theorem generated_prefix_ok : run init Generated.xmlPrefix = { mode := .misc, stack := [], done := none, cr := false } := by
  decide +kernel

theorem generated_suffix_ok : Generated.xmlSuffix.all isS = true := by
  decide +kernel

end Indi.Xml
