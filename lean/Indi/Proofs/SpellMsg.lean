/-
  Message level of foreign spellings: the element the parser reads back from a spelling (`spelled sp e`: attributes in the
  written order, the indentation before the first child appended to the root's text) is read by `from_xml` as the very same
  message as the element `to_xml` built.
-/
import Indi.Spec.XmlSpell
import Indi.Proofs.C03

namespace Indi.Xml
open Indi Indi.Spec.MsgValid
open Indi.C03 (regW regW_generated regW_msg findClass_spec classW_unpack valid_nodup valid_iff)

/-- no registered message class that has children takes a `value` keyword: white space before the first child (which
`from_xml` passes on as `value=""`) is swallowed by `**junk`.  Decided on the regenerated class table. -/
def childrenClassesIgnoreValue (reg : Registry) : Bool :=
  reg.messages.all fun c =>
    (childTagsOf c).isNone || c.fields.all fun f => f.source != some (s "value")

theorem childrenClassesIgnoreValue_generated : childrenClassesIgnoreValue Generated.registry = true := by
  decide +kernel

theorem alookup_ordered (sp : Style) (k : Str) (l : List (Str × Str)) (hn : (l.map Prod.fst).Nodup) :
    alookup k (ordered sp l) = alookup k l := by
  refine alookup_perm hn (List.Perm.symm ?_) k
  unfold ordered
  split
  · exact List.reverse_perm l
  · exact .refl l

theorem buildFields_congr {kw1 kw2 : List (Str × PyVal)} : ∀ L : List FieldSpec,
    (∀ f ∈ L, kwGet kw1 f.source = kwGet kw2 f.source) → buildFields kw1 L = buildFields kw2 L
  | [], _ => rfl
  | f :: fs, h => by
    simp only [buildFields, h f (List.mem_cons_self ..),
      buildFields_congr fs fun g hg => h g (List.mem_cons_of_mem _ hg)]

theorem construct_congr (c : ClassSpec) {kw1 kw2 : List (Str × PyVal)}
    (h : ∀ k, k = s "self" ∨ k ∈ c.required ∨ (∃ f ∈ c.fields, f.source = some k) → alookup k kw1 = alookup k kw2) :
    construct c kw1 = construct c kw2 := by
  have hreq : (c.required.all fun r => ahas r kw1) = c.required.all fun r => ahas r kw2 := by
    rw [Bool.eq_iff_iff, List.all_eq_true, List.all_eq_true]
    exact forall₂_congr fun r hr => by rw [ahas, ahas, h r (.inr (.inl hr))]
  have hb : buildFields kw1 c.fields = buildFields kw2 c.fields := buildFields_congr _ fun f hf => by
    cases hs : f.source with
    | none => rfl
    | some k => rw [kwGet, kwGet, h k (.inr (.inr ⟨f, hf, hs⟩))]
  unfold construct
  rw [ahas, ahas, h _ (.inl rfl), hreq, hb]

theorem partFromXml_ordered (reg : Registry) (sp : Style) (x : Elem1) (hn : (x.attrs.map Prod.fst).Nodup) :
    partFromXml reg { x with attrs := ordered sp x.attrs } = partFromXml reg x := by
  simp only [partFromXml]
  split
  · rfl
  · rename_i c _
    rw [constructPart, constructPart, construct_congr c fun k _ => ?_]
    rw [alookup_partKw, alookup_partKw, alookup_ordered sp k x.attrs hn]

theorem partsFromXml_ordered (reg : Registry) (sp : Style) : ∀ xs : List Elem1,
    (∀ x ∈ xs, (x.attrs.map Prod.fst).Nodup) →
      partsFromXml reg (xs.map fun c => { c with attrs := ordered sp c.attrs }) = partsFromXml reg xs
  | [], _ => rfl
  | x :: xs, h => by
    simp only [List.map_cons, partsFromXml, partFromXml_ordered reg sp x (h x (List.mem_cons_self ..)),
      partsFromXml_ordered reg sp xs fun y hy => h y (List.mem_cons_of_mem _ hy)]

theorem fromXml_congr {reg : Registry} {x y : Elem} (ht : x.tag = y.tag)
    (hp : partsFromXml reg x.children = partsFromXml reg y.children)
    (hk : ∀ c, findClass y.tag reg.messages = some c → ∀ ps, construct c (msgKw x ps) = construct c (msgKw y ps)) :
    fromXml reg x = fromXml reg y := by
  unfold fromXml
  rw [ht, hp]
  split
  · rfl
  · rename_i c hc
    split
    · rfl
    · exact hk c hc _

theorem fromXml_spelled_gen {reg : Registry} (hreg : regW reg = true) (hiv : childrenClassesIgnoreValue reg = true)
    (sp : Style) (m : Msg) (h : valid reg m = true) :
    fromXml reg (spelled sp (toXml m)) = fromXml reg (toXml m) := by
  obtain ⟨hnf, hnc⟩ := valid_nodup hreg h
  have hna : ((toXml m).attrs.map Prod.fst).Nodup :=
    (((sortByKey_perm _).map Prod.fst).nodup_iff).2 (hnf.sublist (presentAttrs_keys m.fields))
  have hparts : partsFromXml reg (spelled sp (toXml m)).children = partsFromXml reg (toXml m).children := by
    refine partsFromXml_ordered reg sp _ fun x hx => ?_
    obtain ⟨p, hp, rfl⟩ := List.mem_map.1 hx
    cases hmc : m.children with
    | none => rw [hmc] at hp; cases hp
    | some ps => rw [hmc] at hp; exact (hnc ps hmc p hp).sublist (presentAttrs_keys p.fields)
  refine fromXml_congr rfl hparts fun c hc ps => ?_
  obtain ⟨c', hc', -, -, hsome, -⟩ := valid_iff.1 h
  cases hc'.symm.trans hc
  obtain ⟨-, -, hreq⟩ := classW_unpack (regW_msg hreg hc)
  -- a class that looks at `value` has no children: the text is the library's
  have hval : ∀ f ∈ c.fields, f.source = some (s "value") → (spelled sp (toXml m)).text = (toXml m).text := by
    intro f hf hsrc
    simp only [childrenClassesIgnoreValue, List.all_eq_true, Bool.or_eq_true] at hiv
    rcases hiv c (findClass_spec hc).1 with h1 | h1
    · have hmc : m.children = none := by simpa [Option.isNone_iff_eq_none.1 h1] using hsome
      simp [spelled, toXml, hmc]
    · simpa [hsrc] using h1 f hf
  refine construct_congr c fun k hlook => ?_
  have ha : (spelled sp (toXml m)).attrs = ordered sp (toXml m).attrs := rfl
  rw [alookup_msgKw, alookup_msgKw, ha, alookup_ordered sp k _ hna]
  by_cases hv : s "value" = k
  · subst hv
    rcases hlook with e | hr | ⟨f, hf, hsrc⟩
    · exact absurd e (by decide)
    · obtain ⟨-, f, hf, hsrc⟩ := hreq _ hr
      rw [hval f hf hsrc]
    · rw [hval f hf hsrc]
  · simp only [hv, and_false, if_false]

/-- **C03, foreign spellings (message level)**: reading back the spelled element gives exactly what reading back the
library's own element gives -/
theorem fromXml_spelled (sp : Style) (hsp : sp.ok = true) (m : Msg) (h : valid Generated.registry m = true) :
    fromXml Generated.registry (spelled sp (toXml m)) = fromXml Generated.registry (toXml m) := by
  have _ := hsp   -- not needed: the value keyword is ignored whatever the indentation is
  exact fromXml_spelled_gen regW_generated childrenClassesIgnoreValue_generated sp m h

local instance : DecidableEq (Except Err Msg)
  | .ok a, .ok b => if h : a = b then isTrue (h ▸ rfl) else isFalse (fun e => h (Except.ok.inj e))
  | .error a, .error b => if h : a = b then isTrue (h ▸ rfl) else isFalse (fun e => h (Except.error.inj e))
  | .ok _, .error _ => isFalse (fun e => by cases e)
  | .error _, .ok _ => isFalse (fun e => by cases e)

def exStyle : Style := { single := true, revAttrs := true, indent := s "\n  ", closeIndent := s "\n" }

def exMsg : Msg :=
  { tag := s "defTextVector",
    fields := [(s "device", some (s "cam")), (s "name", some (s "INFO")), (s "state", some (s "Ok")),
      (s "label", some (s "Info")), (s "group", none), (s "timestamp", none), (s "message", none),
      (s "perm", some (s "rw")), (s "timeout", none)],
    children := some [
      { tag := s "defText", fields := [(s "name", some (s "a")), (s "value", some (s "x")), (s "label", some (s "A"))] },
      { tag := s "defText", fields := [(s "name", some (s "b")), (s "value", some (s "y z")), (s "label", none)] }] }

/-- a valid `defTextVector` with two children, attributes reversed and indented: the spelled element differs from the
library's, the style is admissible, and both are read as the same message -/
example :
    exStyle.ok = true ∧ valid Generated.registry exMsg = true ∧
    spelled exStyle (toXml exMsg) ≠ toXml exMsg ∧
    (spelled exStyle (toXml exMsg)).text = s "\n  " ∧
    fromXml Generated.registry (spelled exStyle (toXml exMsg)) = .ok exMsg ∧
    fromXml Generated.registry (toXml exMsg) = .ok exMsg := by
  decide +kernel

end Indi.Xml

