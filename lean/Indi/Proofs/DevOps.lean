/-
  What a driver operation does, said once: every operation rewrites vectors in place, by edits of its own
  (a value stored, a state set, an element enabled or disabled) and by publications (a definition or an update, whose
  reads stick), and what it publishes are exactly the definitions and updates of the vectors it went through
  (`VRun`, `Steps`, `*_steps`); `enableVec` and `enableGroup` set their flag before the run and outside it, so the
  proofs about them unfold the operation first.  Well-formedness, validity of the messages, the `enabled` flags and the frame of C12
  are each one induction over `Steps`.  The operations that write a vector say more: every edit is followed by the
  attempt to publish the edited vector (`WRun`, `*_wrun`), which is what keeps a client's view in line (C01).
  What a run does not show - the outcome and the handler calls - is in the normal forms `assign_cases`,
  `setValue_cases`, `applyChildren_cons` and the `*_exc` lemmas.
-/
import Indi.Spec.Dev

namespace Indi.Dev

theorem getVec_eq_some {d : Device} {gi vi : Nat} {g : Group} {v : Vec} :
    getVec d gi vi = some (g, v) ↔ d.groups[gi]? = some g ∧ g.vecs[vi]? = some v := by
  unfold getVec
  cases h : d.groups[gi]? with
  | none => simp
  | some g0 =>
    simp only [Option.map_eq_some_iff, Option.some.injEq, Prod.mk.injEq]
    constructor
    · rintro ⟨a, h1, rfl, rfl⟩; exact ⟨rfl, h1⟩
    · rintro ⟨rfl, h1⟩; exact ⟨v, h1, rfl, rfl⟩

theorem forall_getVec_iff {d : Device} {P : Vec → Prop} :
    (∀ gi vi g v, getVec d gi vi = some (g, v) → P v) ↔ ∀ g ∈ d.groups, ∀ v ∈ g.vecs, P v := by
  constructor
  · intro h g hg v hv
    obtain ⟨gi, hgi⟩ := List.mem_iff_getElem?.1 hg
    obtain ⟨vi, hvi⟩ := List.mem_iff_getElem?.1 hv
    exact h gi vi g v (getVec_eq_some.2 ⟨hgi, hvi⟩)
  · intro h gi vi g v hv
    obtain ⟨hg, hv⟩ := getVec_eq_some.1 hv
    exact h g (List.mem_of_getElem? hg) v (List.mem_of_getElem? hv)

theorem getVec_setVec (d : Device) (gi vi : Nat) (v' : Vec) (gj vj : Nat) :
    getVec (setVec d gi vi v') gj vj =
      match getVec d gj vj with
      | none => none
      | some (g, v) =>
        some (if gi = gj then { g with vecs := g.vecs.set vi v' } else g,
              if gi = gj ∧ vi = vj then v' else v) := by
  unfold getVec setVec
  simp only [List.getElem?_modify]
  cases hg : d.groups[gj]? with
  | none => simp
  | some g =>
    by_cases hgi : gi = gj
    · simp only [hgi, Option.map_eq_map, Option.map_some, if_true, List.getElem?_set, true_and]
      by_cases hvi : vi = vj
      · subst hvi
        simp only [if_true]
        cases hv : g.vecs[vi]? with
        | none => simp [List.getElem?_eq_none_iff.1 hv]
        | some v => simp [(List.getElem?_eq_some_iff.1 hv).1]
      · simp only [hvi, if_false]
        cases hv : g.vecs[vj]? <;> simp
    · simp only [hgi, Option.map_eq_map, Option.map_some, if_false, false_and]
      cases hv : g.vecs[vj]? <;> simp

theorem getVec_setVec_same {d : Device} {gi vi : Nat} {g : Group} {v v' : Vec}
    (h : getVec d gi vi = some (g, v)) : getVec (setVec d gi vi v') gi vi = some ({ g with vecs := g.vecs.set vi v' }, v') := by
  rw [getVec_setVec, h]
  simp

theorem all_setVec {P : Nat → Nat → Vec → Prop} {d : Device} {gi vi : Nat} {v' : Vec}
    (h : ∀ gj vj g v, getVec d gj vj = some (g, v) → P gj vj v) (hv' : P gi vi v') :
    ∀ gj vj g v, getVec (setVec d gi vi v') gj vj = some (g, v) → P gj vj v := by
  intro gj vj g v hgv
  rw [getVec_setVec] at hgv
  cases h0 : getVec d gj vj with
  | none => simp [h0] at hgv
  | some gv =>
    obtain ⟨g0, v0⟩ := gv
    simp only [h0, Option.some.injEq, Prod.mk.injEq] at hgv
    obtain ⟨_, rfl⟩ := hgv
    split
    · rename_i hc
      obtain ⟨rfl, rfl⟩ := hc
      exact hv'
    · exact h gj vj g0 v0 h0

theorem getVec_setGroup {d : Device} {gi : Nat} {g : Group} (b : Bool) (hg : d.groups[gi]? = some g) (gj vj : Nat) :
    getVec { d with groups := d.groups.set gi { g with enabled := b } } gj vj =
      (getVec d gj vj).map fun gv => (if gi = gj then { gv.1 with enabled := b } else gv.1, gv.2) := by
  unfold getVec
  simp only [List.getElem?_set]
  by_cases hij : gi = gj
  · subst hij
    simp only [(List.getElem?_eq_some_iff.1 hg).1, if_true, hg]
    cases g.vecs[vj]? <;> rfl
  · simp only [hij, if_false]
    cases d.groups[gj]? with
    | none => rfl
    | some g' => simp only; cases g'.vecs[vj]? <;> rfl

theorem all_setGroup {P : Nat → Nat → Vec → Prop} {d : Device} {gi : Nat} {g : Group} (b : Bool)
    (hg : d.groups[gi]? = some g) (h : ∀ gj vj g v, getVec d gj vj = some (g, v) → P gj vj v) :
    ∀ gj vj g' v, getVec { d with groups := d.groups.set gi { g with enabled := b } } gj vj = some (g', v) → P gj vj v := by
  intro gj vj g' v hv
  rw [getVec_setGroup b hg] at hv
  obtain ⟨⟨g0, v0⟩, h0, h1⟩ := Option.map_eq_some_iff.1 hv
  cases h1
  exact h gj vj g0 v0 h0

theorem setVec_setVec (d : Device) (gi vi : Nat) (a b : Vec) :
    setVec (setVec d gi vi a) gi vi b = setVec d gi vi b := by
  unfold setVec
  simp only [Device.mk.injEq, true_and]
  apply List.ext_getElem?
  intro j
  simp only [List.getElem?_modify]
  by_cases h : gi = j
  · subst h
    cases d.groups[gi]? <;> simp [List.set_set]
  · cases d.groups[j]? <;> simp [h]

theorem modify_id {α} (l : List α) (i : Nat) (f : α → α) (h : ∀ a, l[i]? = some a → f a = a) :
    l.modify i f = l := by
  apply List.ext_getElem?
  intro j
  simp only [List.getElem?_modify]
  by_cases hj : i = j
  · subst hj
    cases h' : l[i]? with
    | none => simp
    | some a => simp [h a h']
  · simp [hj]

theorem setVec_self {d : Device} {gi vi : Nat} {g : Group} {v : Vec} (h : getVec d gi vi = some (g, v)) :
    setVec d gi vi v = d := by
  obtain ⟨h1, h2⟩ := getVec_eq_some.1 h
  obtain ⟨hi, rfl⟩ := List.getElem?_eq_some_iff.1 h2
  unfold setVec
  rw [modify_id _ _ _ fun g' hg' => by cases h1.symm.trans hg'; rw [List.set_getElem_self]]

theorem vecEnabled_group {g g' : Group} (v : Vec) (he : g'.enabled = g.enabled) : vecEnabled g' v = vecEnabled g v := by
  unfold vecEnabled; rw [he]

theorem defMsg_group (dn : Str) {g g' : Group} (v : Vec) (hn : g'.name = g.name) (he : g'.enabled = g.enabled) :
    defMsg dn g' v = defMsg dn g v := by
  unfold defMsg vecEnabled
  rw [hn, he]

theorem setMsg_group (dn : Str) {g g' : Group} (v : Vec) (he : g'.enabled = g.enabled) : setMsg dn g' v = setMsg dn g v := by
  unfold setMsg vecEnabled
  rw [he]

theorem zip_all_of_forall {α β : Type} (l : List α) (l' : List β) (p : α × β → Bool)
    (h : ∀ (i : Nat) x y, l[i]? = some x → l'[i]? = some y → p (x, y) = true) : (l.zip l').all p = true := by
  rw [List.all_eq_true]
  intro z hz
  obtain ⟨i, hi⟩ := List.mem_iff_getElem?.1 hz
  rw [List.getElem?_zip_eq_some] at hi
  exact h i z.1 z.2 hi.1 hi.2

theorem getElem?_some_of_length_eq {α β : Type} {l : List α} {l' : List β} (hl : l'.length = l.length)
    {i : Nat} {x : α} (h : l[i]? = some x) : ∃ y, l'[i]? = some y := by
  have : i < l.length := (List.getElem?_eq_some_iff.1 h).1
  exact ⟨l'[i]'(by omega), List.getElem?_eq_getElem (by omega)⟩

theorem map_eq_map_of_forall {α γ : Type} {f : α → γ} {l l' : List α} (hl : l'.length = l.length)
    (h : ∀ (i : Nat) x y, l[i]? = some x → l'[i]? = some y → f y = f x) : l'.map f = l.map f := by
  apply List.ext_getElem?
  intro i
  simp only [List.getElem?_map]
  cases h1 : l[i]? with
  | none => rw [List.getElem?_eq_none_iff.2 (hl ▸ List.getElem?_eq_none_iff.1 h1)]
  | some x =>
    obtain ⟨y, h2⟩ := getElem?_some_of_length_eq hl h1
    rw [h2, Option.map_some, Option.map_some, h i x y h1 h2]

/-- `d'` has the same shape as `d` (groups, group flags, number of vectors); corresponding vectors are related by `R` -/
structure DevRel (R : Nat → Nat → Vec → Vec → Prop) (d d' : Device) : Prop where
  glen : d'.groups.length = d.groups.length
  grp : ∀ gi g g', d.groups[gi]? = some g → d'.groups[gi]? = some g' →
    g'.enabled = g.enabled ∧ g'.vecs.length = g.vecs.length ∧
    ∀ vi v v', g.vecs[vi]? = some v → g'.vecs[vi]? = some v' → R gi vi v v'

theorem DevRel.refl {R} (hr : ∀ gi vi w, R gi vi w w) (d : Device) : DevRel R d d := by
  refine ⟨rfl, ?_⟩
  intro gi g g' h1 h2
  rw [h1] at h2; cases h2
  refine ⟨rfl, rfl, ?_⟩
  intro vi v v' h3 h4
  rw [h3] at h4; cases h4
  exact hr _ _ _

theorem DevRel.trans {R} (ht : ∀ gi vi a b c, R gi vi a b → R gi vi b c → R gi vi a c) {d1 d2 d3 : Device}
    (h12 : DevRel R d1 d2) (h23 : DevRel R d2 d3) : DevRel R d1 d3 := by
  refine ⟨h23.glen.trans h12.glen, ?_⟩
  intro gi g g'' h1 h3
  obtain ⟨g', h2⟩ := getElem?_some_of_length_eq h12.glen h1
  obtain ⟨e1, l1, r1⟩ := h12.grp gi g g' h1 h2
  obtain ⟨e2, l2, r2⟩ := h23.grp gi g' g'' h2 h3
  refine ⟨e2.trans e1, l2.trans l1, ?_⟩
  intro vi v v'' k1 k3
  obtain ⟨v', k2⟩ := getElem?_some_of_length_eq l1 k1
  exact ht _ _ _ _ _ (r1 vi v v' k1 k2) (r2 vi v' v'' k2 k3)

theorem DevRel.mono {R R' : Nat → Nat → Vec → Vec → Prop} (h : ∀ gi vi a b, R gi vi a b → R' gi vi a b) {d d' : Device}
    (hd : DevRel R d d') : DevRel R' d d' := by
  refine ⟨hd.glen, ?_⟩
  intro gi g g' h1 h2
  obtain ⟨e, l, r⟩ := hd.grp gi g g' h1 h2
  exact ⟨e, l, fun vi v v' k1 k2 => h _ _ _ _ (r vi v v' k1 k2)⟩

/-- the comparison of two devices group by group and vector by vector that the oracles make -/
theorem DevRel.zip_all {R} {d d' : Device} (h : DevRel R d d') (P : Vec × Vec → Bool)
    (hP : ∀ gi vi g v v', getVec d gi vi = some (g, v) → R gi vi v v' → P (v, v') = true) :
    (d.groups.length == d'.groups.length &&
      (d.groups.zip d'.groups).all fun (g, g') =>
        g.enabled == g'.enabled && g.vecs.length == g'.vecs.length && (g.vecs.zip g'.vecs).all P) = true := by
  simp only [Bool.and_eq_true, beq_iff_eq]
  refine ⟨h.glen.symm, zip_all_of_forall _ _ _ fun gi g g' hg hg' => ?_⟩
  obtain ⟨e1, l1, r1⟩ := h.grp gi g g' hg hg'
  simp only [Bool.and_eq_true, beq_iff_eq]
  exact ⟨⟨e1.symm, l1.symm⟩, zip_all_of_forall _ _ _ fun vi v v' hv hv' =>
    hP gi vi g v v' (getVec_eq_some.2 ⟨hg, hv⟩) (r1 vi v v' hv hv')⟩

theorem DevRel.proj_eq {α : Type} {R} (f : Vec → α) (hR : ∀ gi vi v v', R gi vi v v' → f v' = f v) {d d' : Device}
    (h : DevRel R d d') :
    (d'.groups.map fun g => (g.enabled, g.vecs.map f)) = d.groups.map fun g => (g.enabled, g.vecs.map f) :=
  map_eq_map_of_forall h.glen fun gi g g' h1 h2 => by
    obtain ⟨e, l, r⟩ := h.grp gi g g' h1 h2
    rw [e, map_eq_map_of_forall l fun vi v v' k1 k2 => hR gi vi v v' (r vi v v' k1 k2)]

theorem DevRel.of_setVec' {R : Nat → Nat → Vec → Vec → Prop} {d : Device} {gi vi : Nat} {g : Group} {v v' : Vec}
    (h : getVec d gi vi = some (g, v)) (hv : R gi vi v v')
    (hr : ∀ gj vj g0 w, getVec d gj vj = some (g0, w) → ¬(gj = gi ∧ vj = vi) → R gj vj w w) :
    DevRel R d (setVec d gi vi v') := by
  refine ⟨by simp [setVec], fun gj g1 g2 h1 h2 => ?_⟩
  simp only [setVec, List.getElem?_modify, h1, Option.map_eq_map, Option.map_some] at h2
  cases h2
  refine ⟨by split <;> rfl, by split <;> simp, fun vj w w' k1 k2 => ?_⟩
  have hw := getVec_eq_some.2 ⟨h1, k1⟩
  by_cases hc : gj = gi ∧ vj = vi
  · obtain ⟨rfl, rfl⟩ := hc
    cases h.symm.trans hw
    rw [if_pos rfl, List.getElem?_set_self (List.getElem?_eq_some_iff.1 k1).1] at k2
    cases k2
    exact hv
  · have : w' = w := by
      split at k2
      · rename_i hg
        rw [List.getElem?_set_ne (fun hvv => hc ⟨hg.symm, hvv.symm⟩), k1] at k2
        exact (Option.some.inj k2).symm
      · exact (Option.some.inj (k1.symm.trans k2)).symm
    exact this ▸ hr gj vj g1 w hw hc

theorem DevRel.of_setVec {R} (hr : ∀ gi vi w, R gi vi w w) {d : Device} {gi vi : Nat} {g : Group} {v v' : Vec}
    (h : getVec d gi vi = some (g, v)) (hv : R gi vi v v') : DevRel R d (setVec d gi vi v') :=
  DevRel.of_setVec' h hv fun gj vj _ w _ _ => hr gj vj w

/-- the vector after its update was built (the `v3` of `Dev.assign`): the reads of an enabled vector stick -/
def asgV3 (g : Group) (v : Vec) : Vec := if vecEnabled g v then refreshVec v else v

/-- the vector after its definition was built -/
def defV3 (g : Group) (v : Vec) : Vec := if vecEnabled g v then refreshDef v else v

theorem asgV3_ind {P : Vec → Prop} (g : Group) {v : Vec} (h0 : P v) (h1 : P (refreshVec v)) : P (asgV3 g v) := by
  unfold asgV3; split <;> assumption

theorem defV3_ind {P : Vec → Prop} (g : Group) {v : Vec} (h0 : P v) (h1 : P (refreshVec v)) : P (defV3 g v) := by
  unfold defV3 refreshDef; repeat' split
  all_goals assumption

/-- the vector `v` of group `g` goes through edits in `E` and publications, publishes `ms` and ends as `v'` -/
inductive VRun (E : Vec → Vec → Prop) (dn : Str) (g : Group) : Vec → List Msg → Vec → Prop
  | done (v : Vec) : VRun E dn g v [] v
  | edit {v v1 : Vec} {ms : List Msg} {v' : Vec} : E v v1 → VRun E dn g v1 ms v' → VRun E dn g v ms v'
  | defn {v : Vec} {m : Msg} {ms : List Msg} {v' : Vec} :
      defMsg dn g v = .ok m → VRun E dn g (defV3 g v) ms v' → VRun E dn g v (m :: ms) v'
  | set {v : Vec} {mo : Option Msg} {ms : List Msg} {v' : Vec} :
      setMsg dn g v = .ok mo → VRun E dn g (asgV3 g v) ms v' → VRun E dn g v (mo.toList ++ ms) v'

/-- the device goes through runs of its vectors, one after the other; `E gi vi` are the edits allowed at `(gi, vi)` -/
inductive Steps (E : Nat → Nat → Vec → Vec → Prop) : Device → List Msg → Device → Prop
  | done (d : Device) : Steps E d [] d
  | vec {d : Device} {gi vi : Nat} {g : Group} {v : Vec} {ms : List Msg} {v' : Vec} {ms' : List Msg} {d' : Device} :
      getVec d gi vi = some (g, v) → VRun (E gi vi) d.name g v ms v' → Steps E (setVec d gi vi v') ms' d' →
      Steps E d (ms ++ ms') d'

theorem VRun.set1 {E dn g} {v : Vec} {mo : Option Msg} (h : setMsg dn g v = .ok mo) :
    VRun E dn g v mo.toList (asgV3 g v) := by
  simpa using VRun.set (E := E) h (.done _)

theorem Steps.one {E} {d : Device} {gi vi : Nat} {g : Group} {v : Vec} {ms : List Msg} {v' : Vec}
    (h : getVec d gi vi = some (g, v)) (hr : VRun (E gi vi) d.name g v ms v') : Steps E d ms (setVec d gi vi v') := by
  simpa using Steps.vec h hr (Steps.done _)

theorem Steps.trans {E} {d d1 d' : Device} {ms ms' : List Msg} (h : Steps E d ms d1) (h' : Steps E d1 ms' d') :
    Steps E d (ms ++ ms') d' := by
  induction h with
  | done => exact h'
  | vec hg hr _ ih => rw [List.append_assoc]; exact Steps.vec hg hr (ih h')

/-- no edit anywhere: the run only publishes (`sendDefs`, `announce`, `announceAll`) -/
def NoEdit : Nat → Nat → Vec → Vec → Prop := fun _ _ _ _ => False

theorem VRun.inv {E dn g} {I : Vec → Prop} {P : Msg → Prop} {v : Vec} {ms : List Msg} {v' : Vec}
    (h : VRun E dn g v ms v') (hE : ∀ v v1, E v v1 → I v → I v1) (hread : ∀ v, I v → I (refreshVec v))
    (hPd : ∀ v m, I v → defMsg dn g v = .ok m → P m) (hPs : ∀ v m, I v → setMsg dn g v = .ok (some m) → P m) :
    I v → I v' ∧ ∀ m ∈ ms, P m := by
  induction h with
  | done v => exact fun h => ⟨h, fun m hm => nomatch hm⟩
  | edit he _ ih => exact fun h => ih (hE _ _ he h)
  | defn hm _ ih =>
    exact fun h => (ih (defV3_ind g h (hread _ h))).imp_right fun h2 => List.forall_mem_cons.2 ⟨hPd _ _ h hm, h2⟩
  | set hm _ ih =>
    exact fun h => (ih (asgV3_ind g h (hread _ h))).imp_right fun h2 =>
      List.forall_mem_append.2 ⟨fun m hmem => hPs _ _ h (Option.mem_toList.1 hmem ▸ hm), h2⟩

theorem Steps.inv {E} {I : Nat → Nat → Vec → Prop} {P : Msg → Prop} {d d' : Device} {ms : List Msg}
    (h : Steps E d ms d')
    (hE : ∀ gi vi v v1, E gi vi v v1 → I gi vi v → I gi vi v1) (hread : ∀ gi vi v, I gi vi v → I gi vi (refreshVec v))
    (hPd : ∀ gi vi g v m, I gi vi v → defMsg d.name g v = .ok m → P m)
    (hPs : ∀ gi vi g v m, I gi vi v → setMsg d.name g v = .ok (some m) → P m)
    (hd : ∀ gi vi g v, getVec d gi vi = some (g, v) → I gi vi v) :
    (∀ gi vi g v, getVec d' gi vi = some (g, v) → I gi vi v) ∧ ∀ m ∈ ms, P m := by
  induction h with
  | done d => exact ⟨hd, fun m hm => nomatch hm⟩
  | @vec d gi vi g v ms v' ms' d' hg hr _ ih =>
    obtain ⟨k1, k2⟩ := hr.inv (hE gi vi) (hread gi vi) (hPd gi vi g) (hPs gi vi g) (hd _ _ _ _ hg)
    exact (ih hPd hPs (all_setVec hd k1)).imp_right fun i2 => List.forall_mem_append.2 ⟨k2, i2⟩

theorem VRun.rel {E dn g} {R : Vec → Vec → Prop} (hr : ∀ w, R w w) (ht : ∀ a b c, R a b → R b c → R a c)
    (hE : ∀ v v1, E v v1 → R v v1) (hread : ∀ v, R v (refreshVec v))
    {v : Vec} {ms : List Msg} {v' : Vec} (h : VRun E dn g v ms v') : R v v' := by
  induction h with
  | done v => exact hr v
  | edit he _ ih => exact ht _ _ _ (hE _ _ he) ih
  | defn _ _ ih => exact ht _ _ _ (defV3_ind g (hr _) (hread _)) ih
  | set _ _ ih => exact ht _ _ _ (asgV3_ind g (hr _) (hread _)) ih

theorem Steps.rel {E} {R : Nat → Nat → Vec → Vec → Prop} (hr : ∀ gi vi w, R gi vi w w)
    (ht : ∀ gi vi a b c, R gi vi a b → R gi vi b c → R gi vi a c)
    (hE : ∀ gi vi v v1, E gi vi v v1 → R gi vi v v1) (hread : ∀ gi vi v, R gi vi v (refreshVec v))
    {d d' : Device} {ms : List Msg} (h : Steps E d ms d') : DevRel R d d' := by
  induction h with
  | done d => exact .refl hr d
  | vec hg hrun _ ih =>
    exact .trans ht (.of_setVec hr hg (hrun.rel (hr _ _) (ht _ _) (hE _ _) (hread _ _))) ih

/-- a run of writes to a vector: every edit in `E` is followed by the attempt to publish the edited vector (an
update; its reads stick); a failed attempt publishes nothing and leaves the edited vector -/
inductive WRun (E : Vec → Vec → Prop) (dn : Str) (g : Group) : Vec → List Msg → Vec → Prop
  | done (v : Vec) : WRun E dn g v [] v
  | write {v v1 : Vec} {mo : Option Msg} {ms : List Msg} {v' : Vec} :
      E v v1 → setMsg dn g v1 = .ok mo → WRun E dn g (asgV3 g v1) ms v' → WRun E dn g v (mo.toList ++ ms) v'
  | fail {v v1 : Vec} {x : Exc} {ms : List Msg} {v' : Vec} :
      E v v1 → setMsg dn g v1 = .error x → WRun E dn g v1 ms v' → WRun E dn g v ms v'

theorem WRun.write1 {E dn g} {v v1 : Vec} {mo : Option Msg} (he : E v v1) (h : setMsg dn g v1 = .ok mo) :
    WRun E dn g v mo.toList (asgV3 g v1) := by
  simpa using WRun.write he h (.done _)

theorem WRun.vrun {E dn g v ms v'} (h : WRun E dn g v ms v') : VRun E dn g v ms v' := by
  induction h with
  | done v => exact .done v
  | write he hm _ ih => exact .edit he (.set hm ih)
  | fail he _ _ ih => exact .edit he ih

theorem WRun.mono {E E' : Vec → Vec → Prop} (hE : ∀ v v1, E v v1 → E' v v1) {dn g v ms v'} (h : WRun E dn g v ms v') :
    WRun E' dn g v ms v' := by
  induction h with
  | done v => exact .done v
  | write he hm _ ih => exact .write (hE _ _ he) hm ih
  | fail he hm _ ih => exact .fail (hE _ _ he) hm ih

theorem WRun.trans {E dn g} {v v1 v' : Vec} {ms ms' : List Msg} (h : WRun E dn g v ms v1) (h' : WRun E dn g v1 ms' v') :
    WRun E dn g v (ms ++ ms') v' := by
  induction h with
  | done => exact h'
  | write he hm _ ih => rw [List.append_assoc]; exact .write he hm (ih h')
  | fail he hm _ ih => exact .fail he hm (ih h')

theorem WRun.group {E dn} {g g' : Group} (he : g'.enabled = g.enabled) {v v' : Vec} {ms : List Msg}
    (h : WRun E dn g' v ms v') : WRun E dn g v ms v' := by
  have e4 : ∀ w, asgV3 g' w = asgV3 g w := fun w => by unfold asgV3; rw [vecEnabled_group w he]
  induction h with
  | done v => exact .done v
  | write hE hm _ ih => exact .write hE (setMsg_group dn _ he ▸ hm) (e4 _ ▸ ih)
  | fail hE hm _ ih => exact .fail hE (setMsg_group dn _ he ▸ hm) ih

/-- the operation does nothing, or it is one run of writes to the vector at `(gi, vi)`, put back in place -/
def WRunAt (E : Vec → Vec → Prop) (d : Device) (gi vi : Nat) (ms : List Msg) (d' : Device) : Prop :=
  (d' = d ∧ ms = []) ∨ ∃ g v v', getVec d gi vi = some (g, v) ∧ WRun E d.name g v ms v' ∧ d' = setVec d gi vi v'

theorem WRunAt.mono {E E' : Vec → Vec → Prop} (hE : ∀ v v1, E v v1 → E' v v1) {d gi vi ms d'} (h : WRunAt E d gi vi ms d') :
    WRunAt E' d gi vi ms d' :=
  h.imp id fun ⟨g, v, v', hg, hr, hd⟩ => ⟨g, v, v', hg, hr.mono hE, hd⟩

theorem WRunAt.trans {E} {d d1 d' : Device} {gi vi : Nat} {ms ms' : List Msg} (h : WRunAt E d gi vi ms d1)
    (h' : WRunAt E d1 gi vi ms' d') : WRunAt E d gi vi (ms ++ ms') d' := by
  rcases h with ⟨rfl, rfl⟩ | ⟨g, v, v1, hg, hr, rfl⟩
  · exact h'
  · rcases h' with ⟨rfl, rfl⟩ | ⟨g', w, v', hg', hr', rfl⟩
    · exact .inr ⟨g, v, v1, hg, by simpa using hr, rfl⟩
    · rw [getVec_setVec, hg] at hg'
      simp only [and_self, if_true, Option.some.injEq, Prod.mk.injEq] at hg'
      obtain ⟨rfl, rfl⟩ := hg'
      exact .inr ⟨g, v, v', hg, hr.trans (WRun.group (g := g) (g' := { g with vecs := g.vecs.set vi v1 }) rfl hr'), setVec_setVec d gi vi _ _⟩

/-- edits in `E` at the position `(gi, vi)`, and no other -/
def At (gi vi : Nat) (E : Vec → Vec → Prop) : Nat → Nat → Vec → Vec → Prop :=
  fun gj vj v v' => gj = gi ∧ vj = vi ∧ E v v'

/-- an edit in `E` of the very vector that `d` holds at `(gi, vi)` -/
def Of (d : Device) (gi vi : Nat) (E : Vec → Vec → Prop) : Vec → Vec → Prop :=
  fun v v' => (∃ g, getVec d gi vi = some (g, v)) ∧ E v v'

theorem At.pos {gi vi gj vj : Nat} {E : Vec → Vec → Prop} {v v' : Vec} (h : At gi vi E gj vj v v') :
    gj = gi ∧ vj = vi := ⟨h.1, h.2.1⟩

theorem At.edit {gi vi gj vj : Nat} {E : Vec → Vec → Prop} {v v' : Vec} (h : At gi vi E gj vj v v') : E v v' := h.2.2

theorem Of.edit {d : Device} {gi vi : Nat} {E : Vec → Vec → Prop} {v v' : Vec} (h : Of d gi vi E v v') : E v v' := h.2

theorem WRunAt.steps {E} {d d' : Device} {gi vi : Nat} {ms : List Msg} (h : WRunAt E d gi vi ms d') :
    Steps (At gi vi E) d ms d' := by
  rcases h with ⟨rfl, rfl⟩ | ⟨g, v, v', hg, hr, rfl⟩
  · exact .done _
  · exact .one hg (hr.mono fun _ _ h => ⟨rfl, rfl, h⟩).vrun

/-- the `v2` of `Dev.assign` (Model/Dev.lean): what `checkValue` returns, with `stored` put in element `ei` -/
def asgV2 (v1 : Vec) (ei : Nat) (e : Elem) (stored : Value) : Vec :=
  { v1 with elems := v1.elems.set ei { (v1.elems[ei]?.getD e) with value := stored } }

theorem asgV2_eq {v : Vec} {ei : Nat} {e : Elem} (he : v.elems[ei]? = some e) (x : Value) :
    asgV2 v ei e x = { v with elems := v.elems.set ei { e with value := x } } := by
  simp [asgV2, he]

/-- the `now` of `Dev.assign`: the element's value as the change handlers see it, after the reads of the publication -/
def asgNow (v3 : Vec) (ei : Nat) (stored : Value) : Value := (v3.elems[ei]?.map (·.value)).getD stored

/-- `val` is stored in element `ei`: `check_value` passes it (and switches the siblings as the rule says), the
element takes what it returns -/
def Stores (ei : Nat) (val : Value) (v v2 : Vec) : Prop :=
  ∃ e v1 stored, v.elems[ei]? = some e ∧ typeOk v.kind val = true ∧ checkValue v ei val = .ok (v1, stored) ∧
    v2 = asgV2 v1 ei e stored

theorem assign_cases (d : Device) (a : Addr) (val : Value) (g : Group) (v : Vec) (e : Elem)
    (hv : getVec d a.g a.v = some (g, v)) (he : v.elems[a.e]? = some e) :
    (typeOk v.kind val = false ∧ assign d a val = { dev := d, exc := some .assertionError }) ∨
    (typeOk v.kind val = true ∧ ∃ x, checkValue v a.e val = .error x ∧ assign d a val = { dev := d, exc := some x }) ∨
    (typeOk v.kind val = true ∧ ∃ v1 stored, checkValue v a.e val = .ok (v1, stored) ∧
      let v2 := asgV2 v1 a.e e stored
      let now := asgNow (asgV3 g v2) a.e stored
      ((∃ x, setMsg d.name g v2 = .error x ∧ assign d a val = { dev := setVec d a.g a.v v2, exc := some x }) ∨
       (∃ m, setMsg d.name g v2 = .ok m ∧
          assign d a val =
            { dev := setVec d a.g a.v (asgV3 g v2), msgs := m.toList,
              calls := (if pyNe e.value now then fireChange e.d.changeH e.value now else ([], [])).1,
              tasks := (if pyNe e.value now then fireChange e.d.changeH e.value now else ([], [])).2 }))) := by
  unfold assign
  simp only [hv, he]
  cases ht : typeOk v.kind val
  · exact .inl ⟨rfl, rfl⟩
  · refine .inr ?_
    cases hc : checkValue v a.e val with
    | error x => exact .inl ⟨rfl, x, rfl, rfl⟩
    | ok p =>
      obtain ⟨v1, stored⟩ := p
      refine .inr ⟨rfl, v1, stored, rfl, ?_⟩
      cases hs : setMsg d.name g (asgV2 v1 a.e e stored) with
      | error x => left; refine ⟨x, rfl, ?_⟩; simp only [asgV2] at hs; simp only [hs]; rfl
      | ok m => right; refine ⟨m, rfl, ?_⟩; simp only [asgV2] at hs; simp only [hs]; rfl

theorem assign_wrun (d : Device) (a : Addr) (val : Value) :
    WRunAt (Of d a.g a.v (Stores a.e val)) d a.g a.v (assign d a val).msgs (assign d a val).dev := by
  cases hv : getVec d a.g a.v with
  | none => simp only [assign, hv]; exact .inl ⟨rfl, rfl⟩
  | some p =>
    obtain ⟨g, v⟩ := p
    cases he : v.elems[a.e]? with
    | none => simp only [assign, hv, he]; exact .inl ⟨rfl, rfl⟩
    | some e =>
      have hs : ∀ v1 stored, typeOk v.kind val = true → checkValue v a.e val = .ok (v1, stored) →
          Of d a.g a.v (Stores a.e val) v (asgV2 v1 a.e e stored) :=
        fun v1 stored ht hc => ⟨⟨g, hv⟩, e, v1, stored, he, ht, hc, rfl⟩
      rcases assign_cases d a val g v e hv he with ⟨_, h⟩ | ⟨_, x, _, h⟩ | ⟨ht, v1, stored, hc, ⟨x, hx, h⟩ | ⟨m, hm, h⟩⟩
      · rw [h]; exact .inl ⟨rfl, rfl⟩
      · rw [h]; exact .inl ⟨rfl, rfl⟩
      · rw [h]; exact .inr ⟨g, v, _, hv, .fail (hs v1 stored ht hc) hx (.done _), rfl⟩
      · rw [h]; exact .inr ⟨g, v, _, hv, .write1 (hs v1 stored ht hc) hm, rfl⟩

/-! the exceptions an assignment lets out are among those a client's write swallows (anything but `KeyError`): the
model raises `.keyError` for a missing address only, so no branch of `renderNum`, `onePart`, `setMsg` or `checkValue`
builds it, and `onePart_err`, `setMsg_err`, `checkValue_err` below walk through the branches to see that -/

theorem mapParts_err (f : Elem → Except Exc Part) (l : List Elem) (x : Exc) (h : mapParts f l = .error x) :
    ∃ e ∈ l, f e = .error x := by
  fun_induction mapParts f l with
  | case1 => cases h
  | case2 e es hen y hfe => cases h; exact ⟨e, List.mem_cons_self, hfe⟩
  | case3 e es hen q hfe y hrest ih =>
    cases h
    obtain ⟨e', h1, h2⟩ := ih hrest
    exact ⟨e', List.mem_cons_of_mem _ h1, h2⟩
  | case4 => cases h
  | case5 e es hen ih =>
    obtain ⟨e', h1, h2⟩ := ih h
    exact ⟨e', List.mem_cons_of_mem _ h1, h2⟩

theorem onePart_err (k : Kind) (e : Elem) (x : Exc) (h : onePart k e = .error x) : swallowed x = true := by
  unfold onePart at h
  cases k <;> dsimp only at h
  case number =>
    unfold renderNum at h
    split at h
    · -- the number was rendered
      cases h
    · -- `renderNum` failed with `y`
      rename_i y hy
      cases h
      split at hy
      · -- no value: renders
        cases hy
      · -- a number: the three failures of `numToStr`
        split at hy <;> cases hy <;> rfl
      · -- not a number: `.typeError`
        cases hy; rfl
  all_goals split at h <;> cases h <;> rfl

theorem setMsg_err (n : Str) (g : Group) (v : Vec) (x : Exc) (h : setMsg n g v = .error x) : swallowed x = true := by
  unfold setMsg at h
  split at h
  · cases h
  · split at h
    · rename_i y hy
      cases h
      obtain ⟨e, _, he⟩ := mapParts_err _ _ _ hy
      exact onePart_err _ _ _ he
    · cases h

theorem checkValue_err (v : Vec) (ei : Nat) (val : Value) (x : Exc) (h : checkValue v ei val = .error x) :
    swallowed x = true := by
  unfold checkValue at h
  repeat' split at h
  all_goals first | (cases h; rfl) | cases h

theorem assign_exc (d : Device) (a : Addr) (val : Value) (g : Group) (v : Vec) (e : Elem)
    (hv : getVec d a.g a.v = some (g, v)) (he : v.elems[a.e]? = some e) (x : Exc)
    (h : (assign d a val).exc = some x) : swallowed x = true := by
  rcases assign_cases d a val g v e hv he with ⟨_, h1⟩ | ⟨_, y, hy, h1⟩ | ⟨ht, v1, stored, hc, ⟨y, hy, h1⟩ | ⟨m, _, h1⟩⟩
  · rw [h1] at h; cases h; rfl
  · rw [h1] at h; cases h; exact checkValue_err _ _ _ _ hy
  · rw [h1] at h; cases h; exact setMsg_err _ _ _ _ hy
  · rw [h1] at h; cases h

theorem setValue_spec (d : Device) (a : Addr) (val : Value) :
    ((setValue d a val).dev = d ∧ (setValue d a val).msgs = [] ∧
      ((setValue d a val).exc = none ∨ (setValue d a val).exc = some .keyError)) ∨
    ((setValue d a val).dev = (assign d a val).dev ∧ (setValue d a val).msgs = (assign d a val).msgs ∧
      (setValue d a val).exc = (assign d a val).exc) := by
  unfold setValue
  split
  · exact .inl ⟨rfl, rfl, .inr rfl⟩
  · split
    · exact .inl ⟨rfl, rfl, .inr rfl⟩
    · dsimp only
      split
      · exact .inl ⟨rfl, rfl, .inl rfl⟩
      · exact .inr ⟨rfl, rfl, rfl⟩

theorem setValue_wrun (d : Device) (a : Addr) (val : Value) :
    WRunAt (Of d a.g a.v (Stores a.e val)) d a.g a.v (setValue d a val).msgs (setValue d a val).dev := by
  rcases setValue_spec d a val with ⟨h1, h2, _⟩ | ⟨h1, h2, _⟩ <;> rw [h1, h2]
  · exact .inl ⟨rfl, rfl⟩
  · exact assign_wrun d a val

/-- the `mk` of `Dev.setValue`: the call of a Write handler -/
def wMk (val : Value) (e : Elem) (h : WriteH) : Call :=
  { handler := h.id, kind := .write, old := .none, new := val,
    seen := if h.async then .none else e.value, task := h.async }

theorem setValue_cases (d : Device) (a : Addr) (val : Value) (g : Group) (v : Vec) (e : Elem)
    (hv : getVec d a.g a.v = some (g, v)) (he : v.elems[a.e]? = some e) :
    ((e.d.writeH.any fun h => !h.async && h.veto) = true ∧
      setValue d a val = { dev := d, calls := (e.d.writeH.filter fun h => !h.async).map (wMk val e),
                           tasks := (e.d.writeH.filter fun h => h.async).map (wMk val e) }) ∨
    ((e.d.writeH.any fun h => !h.async && h.veto) = false ∧
      setValue d a val = { assign d a val with
        calls := (e.d.writeH.filter fun h => !h.async).map (wMk val e) ++ (assign d a val).calls,
        tasks := (e.d.writeH.filter fun h => h.async).map (wMk val e) ++ (assign d a val).tasks }) := by
  unfold setValue
  simp only [hv, he]
  cases hvet : (e.d.writeH.any fun h => !h.async && h.veto)
  · right; exact ⟨rfl, by simp only [Bool.false_eq_true, if_false]; rfl⟩
  · left; exact ⟨rfl, by simp only [if_true]; rfl⟩

theorem setValue_exc (d : Device) (a : Addr) (val : Value) (g : Group) (v : Vec) (e : Elem)
    (hv : getVec d a.g a.v = some (g, v)) (he : v.elems[a.e]? = some e) (x : Exc)
    (h : (setValue d a val).exc = some x) : swallowed x = true := by
  rcases setValue_cases d a val g v e hv he with ⟨_, hs⟩ | ⟨_, hs⟩ <;> rw [hs] at h
  · cases h
  · exact assign_exc d a val g v e hv he x h

/-- the edit of `setState` (`vector.state_ = t`): the state becomes one of the four INDI states -/
def SetsState (v v1 : Vec) : Prop := ∃ t, states.contains t = true ∧ v1 = { v with state := t }

theorem SetsState.enabled {v v1 : Vec} (h : SetsState v v1) : v1.enabled = v.enabled := by
  obtain ⟨_, _, rfl⟩ := h; rfl

theorem setState_wrun (d : Device) (gi vi : Nat) (st : Option Str) :
    WRunAt SetsState d gi vi (setState d gi vi st).msgs (setState d gi vi st).dev := by
  unfold setState
  split
  · exact .inl ⟨rfl, rfl⟩
  · rename_i g v hv
    split
    · rename_i t
      split
      · exact .inl ⟨rfl, rfl⟩
      · rename_i ht
        have he : SetsState v { v with state := t } := ⟨t, by simpa using ht, rfl⟩
        dsimp only
        split
        · rename_i x hx
          exact .inr ⟨g, v, _, hv, .fail he hx (.done _), rfl⟩
        · rename_i m hm
          exact .inr ⟨g, v, _, hv, .write1 he hm, rfl⟩
    · exact .inl ⟨rfl, rfl⟩

/-- the edit of `enableElem` (`element.enabled = b`): one element is enabled or disabled -/
def SetsElemFlag (v v1 : Vec) : Prop :=
  ∃ ei e b, v.elems[ei]? = some e ∧ v1 = { v with elems := v.elems.set ei { e with enabled := b } }

theorem SetsElemFlag.enabled {v v1 : Vec} (h : SetsElemFlag v v1) : v1.enabled = v.enabled := by
  obtain ⟨_, _, _, _, rfl⟩ := h; rfl

theorem enableElem_steps (d : Device) (a : Addr) (b : Bool) :
    Steps (At a.g a.v SetsElemFlag) d (enableElem d a b).msgs (enableElem d a b).dev := by
  unfold enableElem
  split
  · exact .done d
  · rename_i g v hv
    split
    · exact .done d
    · rename_i e he
      exact .one hv (.edit ⟨rfl, rfl, _, e, b, he, rfl⟩ (.done _))

theorem announce_steps (E) (d : Device) (gi vi : Nat) : Steps E d (announce d gi vi).msgs (announce d gi vi).dev := by
  unfold announce
  split
  · exact .done d
  · rename_i g v hv
    split
    · exact .done d
    · rename_i dm hdm
      dsimp only
      split
      · exact .one hv (.defn hdm (.done _))
      · rename_i sm hsm
        exact .one hv (.defn hdm (.set1 hsm))

theorem announceAll_steps (E) (gi : Nat) :
    ∀ (l : List Nat) (d : Device), Steps E d (announceAll gi d l).msgs (announceAll gi d l).dev
  | [], d => .done d
  | vi :: rest, d => by
    unfold announceAll
    dsimp only
    split
    · exact announce_steps E d gi vi
    · exact (announce_steps E d gi vi).trans (announceAll_steps E gi rest _)

theorem sendDefs_steps (E) : ∀ (l : List (Nat × Nat)) (d : Device), Steps E d (sendDefs d l).msgs (sendDefs d l).dev
  | [], d => .done d
  | (gi, vi) :: rest, d => by
    unfold sendDefs
    split
    · exact sendDefs_steps E rest d
    · rename_i g v hv
      split
      · exact .done d
      · rename_i m hm
        exact .vec hv (.defn hm (.done _)) (sendDefs_steps E rest _)

/-- the `name` attribute of a child: a copy of the local `name` of `applyChildren` (Model/Dev.lean) -/
def childName (p : Part) : Option Str := (alookup (s "name") p.fields).getD none

/-- the edit of `applyChildren`: a child among `ps` names an element of the vector and carries a value for it, which
is stored -/
def Writes (ps : List Part) (v v2 : Vec) : Prop :=
  ∃ p ∈ ps, ∃ n ei val, childName p = some n ∧ findElemByName v n = some ei ∧ valueFromPart v.kind p = .ok val ∧
    Stores ei val v v2

theorem findElemByName_some {v : Vec} {n : Str} {ei : Nat} (h : findElemByName v n = some ei) :
    ∃ e, v.elems[ei]? = some e ∧ e.d.name = n := by
  unfold findElemByName at h
  rw [Option.map_eq_some_iff] at h
  obtain ⟨⟨e, i⟩, h1, rfl⟩ := h
  have h2 := List.find?_some h1
  have h3 := List.mem_of_find?_eq_some h1
  rw [List.mem_reverse, List.mem_zipIdx_iff_getElem?] at h3
  exact ⟨e, h3, by simpa using h2⟩

theorem mergeRes_dev (a b : Result) : (mergeRes a b).dev = b.dev := rfl

theorem mergeRes_exc (a b : Result) (ha : a.exc = none) : (mergeRes a b).exc = b.exc := by
  simp [mergeRes, ha]

theorem applyChildren_none {gi vi : Nat} {d : Device} (h : getVec d gi vi = none) :
    ∀ ps, applyChildren gi vi d ps = { dev := d }
  | [] => rfl
  | _ :: _ => by simp only [applyChildren, h]

/-- the model's branch for an exception of `set_value` that is not swallowed is never taken (`setValue_exc`); its other
two are one here -/
theorem applyChildren_cons {gi vi : Nat} {d : Device} (p : Part) (ps : List Part) {g : Group} {v : Vec}
    (hv : getVec d gi vi = some (g, v)) :
    applyChildren gi vi d (p :: ps) =
      match (childName p).bind (findElemByName v), valueFromPart v.kind p with
      | some ei, .ok val =>
        mergeRes { setValue d ⟨gi, vi, ei⟩ val with exc := none }
          (applyChildren gi vi (setValue d ⟨gi, vi, ei⟩ val).dev ps)
      | _, _ => applyChildren gi vi d ps := by
  rw [applyChildren]
  simp only [hv, childName]
  cases hei : ((alookup (s "name") p.fields).getD none).bind (findElemByName v) with
  | none => rfl
  | some ei =>
    cases hval : valueFromPart v.kind p with
    | error _ => rfl
    | ok val =>
      obtain ⟨n, _, hn⟩ := Option.bind_eq_some_iff.1 hei
      obtain ⟨e, he, _⟩ := findElemByName_some hn
      dsimp only
      split
      · rename_i x hx
        rw [if_pos (setValue_exc d ⟨gi, vi, ei⟩ val g v e hv he x hx)]
      · rename_i hx
        simp only [mergeRes, hx]

theorem applyChildren_wrun (gi vi : Nat) : ∀ (ps : List Part) (d : Device),
    WRunAt (Writes ps) d gi vi (applyChildren gi vi d ps).msgs (applyChildren gi vi d ps).dev
  | [], d => .inl ⟨rfl, rfl⟩
  | p :: ps, d => by
    have ih : ∀ d', WRunAt (Writes (p :: ps)) d' gi vi (applyChildren gi vi d' ps).msgs (applyChildren gi vi d' ps).dev :=
      fun d' => (applyChildren_wrun gi vi ps d').mono fun _ _ ⟨q, hq, h⟩ => ⟨q, List.mem_cons_of_mem _ hq, h⟩
    cases hv : getVec d gi vi with
    | none => rw [applyChildren_none hv]; exact .inl ⟨rfl, rfl⟩
    | some gv =>
      rw [applyChildren_cons p ps hv]
      split
      · rename_i ei val hei hval
        obtain ⟨n, hn, hei⟩ := Option.bind_eq_some_iff.1 hei
        refine ((setValue_wrun d ⟨gi, vi, ei⟩ val).mono ?_).trans (ih _)
        rintro v0 v2 ⟨⟨g0, hv0⟩, hs⟩
        rw [hv] at hv0
        cases hv0
        exact ⟨p, List.mem_cons_self, n, ei, val, hn, hei, hval, hs⟩
      · exact ih d

theorem applyChildren_exc (gi vi : Nat) : ∀ (ps : List Part) (d : Device), (applyChildren gi vi d ps).exc = none
  | [], _ => rfl
  | p :: ps, d => by
    cases hv : getVec d gi vi with
    | none => rw [applyChildren_none hv]
    | some gv =>
      rw [applyChildren_cons p ps hv]
      split
      · exact (mergeRes_exc _ _ rfl).trans (applyChildren_exc gi vi ps _)
      · exact applyChildren_exc gi vi ps d

/-- the shape of the outcome; which definitions a `getProperties` sends matters to C07's response only, which reads
it off the model (`DevBResp.fromClient_msgs`) -/
theorem fromClient_cases (d : Device) (m : Msg) :
    (∃ L, fromClient d m = sendDefs d L) ∨
    (∃ n gi vi g v, m.tag.take 3 = s "new" ∧ (alookup (s "name") m.fields).getD none = some n ∧
      findVecByName d n = some (gi, vi) ∧ getVec d gi vi = some (g, v) ∧ newTag v.kind = some m.tag ∧
      fromClient d m = applyChildren gi vi d (m.children.getD [])) ∨
    fromClient d m = { dev := d } := by
  unfold fromClient
  by_cases hget : m.tag = s "getProperties"
  · rw [if_pos hget]
    cases (alookup (s "name") m.fields).getD none with
    | none => exact .inl ⟨_, rfl⟩
    | some n =>
      dsimp only
      split
      · exact .inl ⟨_, rfl⟩
      · cases findVecByName d n with
        | none => exact .inr (.inr rfl)
        | some p => exact .inl ⟨_, rfl⟩
  · rw [if_neg hget]
    by_cases hnew : m.tag.take 3 = s "new"
    · rw [if_pos hnew]
      cases hn : (alookup (s "name") m.fields).getD none with
      | none => exact .inr (.inr rfl)
      | some n =>
        dsimp only
        cases hfind : findVecByName d n with
        | none => exact .inr (.inr rfl)
        | some p =>
          obtain ⟨gi, vi⟩ := p
          dsimp only
          cases hv : getVec d gi vi with
          | none => exact .inr (.inr rfl)
          | some gv =>
            obtain ⟨g, v⟩ := gv
            dsimp only
            split
            · rename_i htag
              exact .inr (.inl ⟨n, gi, vi, g, v, hnew, rfl, hfind, hv, htag, rfl⟩)
            · exact .inr (.inr rfl)
    · rw [if_neg hnew]; exact .inr (.inr rfl)

/-- `fromClient_cases` without the conditions: what the facts that hold of every run need of it -/
theorem fromClient_shape (d : Device) (m : Msg) :
    (∃ L, fromClient d m = sendDefs d L) ∨
    (∃ gi vi, fromClient d m = applyChildren gi vi d (m.children.getD [])) ∨ fromClient d m = { dev := d } :=
  (fromClient_cases d m).imp_right (.imp_left fun ⟨_, gi, vi, _, _, _, _, _, _, _, h⟩ => ⟨gi, vi, h⟩)

end Indi.Dev
