/-
  Lemmas about the connection model (Model/Conn.lean) for C18 / C12 / C02 at the connection level, with the vocabulary
  of those theorems (`conn?`, `ends`, `WF`, `admissible`).  Every event is routing (`quiet`, which keeps the invariant
  and what `Same` says of the router) followed by the end of at most one handler (`closing`): `step_fst` is that normal
  form, and the theorems are read off `quiet_spec` and `step_other`.  A run of receives threads the buffer like
  `Buf.session` and routes the flattened deliveries (`run_recvs`).
-/
import Indi.Model.Conn
import Indi.Proofs.RtrDeliver
import Indi.Proofs.AList

namespace Indi.Conn
open Indi

def conn? (sv : Server) (i : Nat) : Option Conn := sv.conns.find? fun c => c.id = i

/-- the events that end connection `i`: end of file, a failing read, an exception while one of its messages is handled
(`raised`: the exception really occurred, i.e. the raiseAt-th message of the chunk exists and reaches the router) -/
def ends (sv : Server) (i : Nat) : Event → Bool
  | .eof j => j = i
  | .readError j => j = i
  | .recv j chunk raiseAt =>
    j = i &&
    (match conn? sv i with
     | some c => (routeAll i sv.router (Buf.feed parseMsg tags Generated.defaultThreshold c.data chunk).1 0 raiseAt).2.2
     | none => false)
  | _ => false

/-- well-formed server: connection ids are distinct, and a connection is served exactly while the router knows it -/
def WF (sv : Server) : Prop :=
  (sv.conns.map (·.id)).Nodup ∧
  (∀ c ∈ sv.conns, c.serving = true ↔ c.id ∈ sv.router.clients) ∧
  (∀ i ∈ sv.router.clients, ∃ c ∈ sv.conns, c.id = i) ∧
  (∀ c ∈ sv.conns, c.serving = false → Rtr.nlookup c.id sv.router.blob = none) ∧
  sv.router.clients.Nodup ∧
  (sv.router.blob.map Prod.fst).Nodup

theorem WF.clients_nodup {sv : Server} (h : WF sv) : sv.router.clients.Nodup := h.2.2.2.2.1

theorem WF.keys_nodup {sv : Server} (h : WF sv) : (sv.router.blob.map Prod.fst).Nodup := h.2.2.2.2.2

/-- an event the environment can produce in state `sv`: a new connection gets a fresh id -/
def admissible (sv : Server) : Event → Prop
  | .connect i _ => ∀ c ∈ sv.conns, c.id ≠ i
  | _ => True

/-- `σ'` has the clients of `σ` and the same registered BLOB keys (sends, device registrations) -/
structure Same (σ σ' : Rtr.State) : Prop where
  clients : σ'.clients = σ.clients
  keys : (σ.blob.map Prod.fst).Nodup → (σ'.blob.map Prod.fst).Nodup
  look : ∀ j, Rtr.nlookup j σ'.blob = none ↔ Rtr.nlookup j σ.blob = none

theorem Same.refl (σ : Rtr.State) : Same σ σ := ⟨rfl, id, fun _ => Iff.rfl⟩

theorem Same.trans {a b c : Rtr.State} (h1 : Same a b) (h2 : Same b c) : Same a c :=
  ⟨h2.clients.trans h1.clients, fun h => h2.keys (h1.keys h), fun j => (h2.look j).trans (h1.look j)⟩

theorem processEnableBlob_same (σ : Rtr.State) (m : Rtr.RMsg) (sd : Rtr.Sender) :
    Same σ (Rtr.processEnableBlob σ m sd) := by
  cases sd with
  | nobody | dev _ => exact Same.refl σ
  | cli c =>
    simp only [Rtr.processEnableBlob]
    cases hl : Rtr.nlookup c σ.blob with
    | none => exact Same.refl σ
    | some d =>
      refine ⟨rfl, fun h => Rtr.keys_nset _ _ _ h, ?_⟩
      intro j
      simp only [Rtr.nlookup_nset]
      by_cases hj : c = j
      · subst hj; simp [hl]
      · simp [hj]

theorem process_same (σ : Rtr.State) (m : Rtr.RMsg) (sd : Rtr.Sender) : Same σ (Rtr.process σ m sd).1 := by
  simp only [Rtr.process]
  split
  · exact processEnableBlob_same σ m sd
  · exact Same.refl σ

theorem process_deliv (σ : Rtr.State) (m : Rtr.RMsg) (sd : Rtr.Sender) (j : Nat)
    (h : Rtr.Target.cli j ∈ (Rtr.process σ m sd).2) : j ∈ σ.clients :=
  ((Rtr.mem_process_cli σ m sd j).1 h).2.1

theorem untilFirstDev_sublist : ∀ l : List Rtr.Target, (untilFirstDev l).Sublist l
  | [] => .slnil
  | .dev _ :: xs => (List.nil_sublist xs).cons_cons _
  | .cli _ :: xs => (untilFirstDev_sublist xs).cons_cons _

/-- Routing the messages of a chunk: the router keeps its clients and BLOB keys (`Same`); every delivery goes to a
client registered beforehand; without `raiseAt` no exception ends the handler.  One induction, because the second
needs the first. -/
theorem routeAll_spec (i : Nat) (raiseAt : Option Nat) :
    ∀ (msgs : List Msg) (r : Rtr.State) (k : Nat),
      Same r (routeAll i r msgs k raiseAt).1 ∧
      (∀ ds ∈ (routeAll i r msgs k raiseAt).2.1.deliveries, ∀ j, Rtr.Target.cli j ∈ ds → j ∈ r.clients) ∧
      (raiseAt = none → (routeAll i r msgs k raiseAt).2.2 = false) := by
  intro msgs
  induction msgs with
  | nil =>
    intro r k
    refine ⟨Same.refl r, ?_, fun _ => rfl⟩
    intro ds h; cases h
  | cons m rest ih =>
    intro r k
    simp only [routeAll]
    split
    · exact ih r (k + 1)
    · rename_i rm _
      have hp := process_same r rm (.cli i)
      have hd := process_deliv r rm (.cli i)
      simp only [Rtr.step]
      split
      · rename_i hk
        refine ⟨hp, ?_, ?_⟩
        · intro ds h j hj
          simp only [List.mem_singleton] at h
          subst h
          exact hd j ((untilFirstDev_sublist _).subset hj)
        · intro hn; rw [hn] at hk; cases hk
      · obtain ⟨h1, h2, h3⟩ := ih (Rtr.process r rm (.cli i)).1 (k + 1)
        refine ⟨hp.trans h1, ?_, h3⟩
        intro ds h j hj
        rcases List.mem_cons.mp h with e | e
        · subst e; exact hd j hj
        · rw [← hp.clients]; exact h2 ds e j hj

theorem routeAll_none_index (i : Nat) : ∀ (msgs : List Msg) (r : Rtr.State) (k : Nat),
    routeAll i r msgs k none = routeAll i r msgs 0 none := by
  intro msgs
  induction msgs with
  | nil => intro r k; rfl
  | cons m rest ih =>
    intro r k
    simp only [routeAll]
    split
    · rw [ih r (k + 1), ih r (0 + 1)]
    · simp only [reduceCtorEq, if_false]
      rw [ih _ (k + 1), ih _ (0 + 1)]

theorem routeAll_append (i : Nat) : ∀ (a b : List Msg) (r : Rtr.State),
    (routeAll i r (a ++ b) 0 none).1 = (routeAll i (routeAll i r a 0 none).1 b 0 none).1 ∧
    (routeAll i r (a ++ b) 0 none).2.1.ops =
      (routeAll i r a 0 none).2.1.ops ++ (routeAll i (routeAll i r a 0 none).1 b 0 none).2.1.ops := by
  intro a
  induction a with
  | nil => intro b r; simp [routeAll]
  | cons m rest ih =>
    intro b r
    simp only [List.cons_append, routeAll]
    split
    · rw [routeAll_none_index i (rest ++ b), routeAll_none_index i rest]
      exact ih b r
    · simp only [reduceCtorEq, if_false]
      rw [routeAll_none_index i (rest ++ b), routeAll_none_index i rest]
      obtain ⟨h1, h2⟩ := ih b (Rtr.step r (.send _ (.cli i))).1
      exact ⟨h1, by simp only [h2, List.cons_append]⟩

/-- `conn.close()` on the connection record -/
def markClosed (i : Nat) (c : Conn) : Conn :=
  if c.id = i then { c with serving := false, writerClosed := c.tcp } else c

def setData (i : Nat) (rest : Str) (c : Conn) : Conn := if c.id = i then { c with data := rest } else c

theorem markClosed_id (i : Nat) (c : Conn) : (markClosed i c).id = c.id := by
  unfold markClosed; split <;> rfl

theorem setData_id (i : Nat) (rest : Str) (c : Conn) : (setData i rest c).id = c.id := by
  unfold setData; split <;> rfl

theorem setData_serving (i : Nat) (rest : Str) (c : Conn) : (setData i rest c).serving = c.serving := by
  unfold setData; split <;> rfl

theorem conn?_mem {sv : Server} {i : Nat} {c : Conn} (h : conn? sv i = some c) : c ∈ sv.conns ∧ c.id = i := by
  unfold conn? at h
  exact ⟨List.mem_of_find?_eq_some h, by simpa using List.find?_some h⟩

theorem conn?_map (r r' : Rtr.State) (l : List Conn) (f : Conn → Conn) (hf : ∀ c, (f c).id = c.id) (i : Nat) :
    conn? { router := r', conns := l.map f } i = (conn? { router := r, conns := l } i).map f := by
  unfold conn?
  simp only [List.find?_map]
  congr 2
  funext c
  simp [hf]

theorem conn?_update {sv : Server} {i : Nat} {c : Conn} (hc : conn? sv i = some c) (r' : Rtr.State) (j : Nat)
    (g : Conn → Conn) (hg : ∀ c, (g c).id = c.id) :
    conn? { router := r', conns := sv.conns.map fun c => if c.id = j then g c else c } i =
      some (if i = j then g c else c) := by
  rw [conn?_map sv.router r' sv.conns _ (fun c => by split <;> simp [hg]) i]
  show Option.map _ (conn? sv i) = _
  rw [hc, Option.map_some, (conn?_mem hc).2]

theorem conn?_setData {sv : Server} {i : Nat} {c : Conn} (hc : conn? sv i = some c) (r' : Rtr.State) (j : Nat)
    (rest : Str) :
    conn? { router := r', conns := sv.conns.map (setData j rest) } i =
      some (if i = j then { c with data := rest } else c) :=
  conn?_update hc r' j (fun c => { c with data := rest }) fun _ => rfl

theorem conn?_append (r r' : Rtr.State) (l l' : List Conn) (i : Nat) (c : Conn)
    (h : conn? { router := r, conns := l } i = some c) :
    conn? { router := r', conns := l ++ l' } i = some c := by
  unfold conn? at *
  simp only [List.find?_append, h]
  rfl

theorem conn?_router (sv : Server) (r' : Rtr.State) (i : Nat) :
    conn? { router := r', conns := sv.conns } i = conn? sv i := rfl

theorem conn?_unique {sv : Server} {i : Nat} {c : Conn} (hnd : (sv.conns.map (·.id)).Nodup)
    (hc : conn? sv i = some c) : ∀ c' ∈ sv.conns, c'.id = i → c' = c :=
  fun _ hc' hi => inj_of_nodup_map (·.id) hnd hc' (conn?_mem hc).1 (hi.trans (conn?_mem hc).2.symm)

theorem setData_setData (i : Nat) (a b : Str) : setData i b ∘ setData i a = setData i b := by
  funext c
  simp only [Function.comp, setData]
  split <;> simp_all

theorem map_setData_self {l : List Conn} {i : Nat} {d : Str} (h : ∀ c ∈ l, c.id = i → c.data = d) :
    l.map (setData i d) = l := by
  refine (List.map_congr_left fun c hc => ?_).trans (List.map_id l)
  unfold setData
  split
  · rename_i hi
    rw [← h c hc hi]
    rfl
  · rfl

theorem server_eq {a b : Server} (h1 : a.router = b.router) (h2 : a.conns = b.conns) : a = b := by
  cases a; cases b; simp_all

theorem wf_router {sv : Server} {r' : Rtr.State} (h : WF sv) (hs : Same sv.router r') :
    WF { router := r', conns := sv.conns } := by
  obtain ⟨h1, h2, h3, h4, h5, h6⟩ := h
  refine ⟨h1, ?_, ?_, ?_, ?_, hs.keys h6⟩
  · intro c hc; simp only [hs.clients]; exact h2 c hc
  · intro i hi; simp only [hs.clients] at hi; exact h3 i hi
  · intro c hc hf; exact (hs.look c.id).mpr (h4 c hc hf)
  · simp only [hs.clients]; exact h5

theorem wf_map {sv : Server} (f : Conn → Conn) (h : WF sv) (hid : ∀ c, (f c).id = c.id)
    (hsv : ∀ c, (f c).serving = c.serving) : WF { router := sv.router, conns := sv.conns.map f } := by
  obtain ⟨h1, h2, h3, h4, h5, h6⟩ := h
  refine ⟨?_, ?_, ?_, ?_, h5, h6⟩
  · rwa [List.map_map, show (·.id) ∘ f = (·.id) from funext hid]
  · simpa only [List.forall_mem_map, hid, hsv] using h2
  · exact fun i hi => let ⟨c, hc, e⟩ := h3 i hi; ⟨f c, List.mem_map_of_mem hc, (hid c).trans e⟩
  · simpa only [List.forall_mem_map, hid, hsv] using h4

theorem closeConn_fst (sv : Server) (i : Nat) :
    (closeConn sv i).1 = { router := (Rtr.step sv.router (.unreg i)).1, conns := sv.conns.map (markClosed i) } := rfl

theorem wf_close {sv : Server} (i : Nat) (h : WF sv) : WF (closeConn sv i).1 := by
  obtain ⟨h1, h2, h3, h4, h5, h6⟩ := h
  obtain ⟨r1, r2, r3⟩ := Rtr.removeFirst_nodup (c := i) h5
  rw [closeConn_fst]
  refine ⟨?_, ?_, ?_, ?_, r1, Rtr.keys_ndel _ _ h6⟩
  · rwa [List.map_map, show (·.id) ∘ markClosed i = (·.id) from funext (markClosed_id i)]
  · simp only [List.forall_mem_map, markClosed_id, Rtr.step]
    intro c hc
    by_cases hi : c.id = i
    · simp [markClosed, hi, r2]
    · rw [r3 _ hi, ← h2 c hc, markClosed, if_neg hi]
  · intro j hj
    obtain ⟨c, hc, e⟩ := h3 j (Rtr.mem_removeFirst hj)
    exact ⟨_, List.mem_map_of_mem hc, (markClosed_id i c).trans e⟩
  · simp only [List.forall_mem_map, markClosed_id, Rtr.step, Rtr.nlookup_ndel _ _ _ h6]
    intro c hc hf
    by_cases hi : c.id = i
    · rw [if_pos hi.symm]
    · rw [if_neg (Ne.symm hi)]
      exact h4 c hc (by rwa [markClosed, if_neg hi] at hf)

theorem wf_connect {sv : Server} (i : Nat) (tcp : Bool) (h : WF sv) (hfresh : ∀ c ∈ sv.conns, c.id ≠ i) :
    WF { router := (Rtr.step sv.router (.regCli i)).1, conns := sv.conns ++ [{ id := i, tcp := tcp }] } := by
  obtain ⟨h1, h2, h3, h4, h5, h6⟩ := h
  have hni : i ∉ sv.router.clients := fun hi => let ⟨c, hc, e⟩ := h3 i hi; hfresh c hc e
  refine ⟨?_, ?_, ?_, ?_, Rtr.nodup_snoc h5 hni, Rtr.keys_nset _ _ _ h6⟩
  · rw [List.map_append]
    exact Rtr.nodup_snoc h1 fun ha => let ⟨c, hc, e⟩ := List.mem_map.mp ha; hfresh c hc e
  -- in the other three, the old records by the invariant and freshness, then the new record
  · simp only [Rtr.step, List.forall_mem_append, List.forall_mem_singleton]
    exact ⟨fun c hc => by rw [h2 c hc, List.mem_append, List.mem_singleton, or_iff_left (hfresh c hc)], by simp⟩
  · simp only [Rtr.step, List.forall_mem_append, List.forall_mem_singleton]
    exact ⟨fun j hj => let ⟨c, hc, e⟩ := h3 j hj; ⟨c, List.mem_append_left _ hc, e⟩,
      ⟨_, List.mem_append_right _ List.mem_cons_self, rfl⟩⟩
  · simp only [Rtr.step, List.forall_mem_append, List.forall_mem_singleton, Rtr.nlookup_nset]
    exact ⟨fun c hc hf => by rw [if_neg (Ne.symm (hfresh c hc))]; exact h4 c hc hf, fun hf => by cases hf⟩

theorem conn?_close {sv : Server} {i : Nat} {c : Conn} (hc : conn? sv i = some c) (j : Nat) :
    conn? (closeConn sv j).1 i = some (markClosed j c) := by
  rw [closeConn_fst, conn?_map sv.router _ sv.conns _ (markClosed_id j)]
  exact congrArg _ hc

theorem close_cleans {sv : Server} {i : Nat} {c : Conn} (h : WF sv) (hc : conn? sv i = some c) :
    conn? (closeConn sv i).1 i = some { c with serving := false, writerClosed := c.tcp } ∧
      i ∉ (closeConn sv i).1.router.clients ∧ Rtr.nlookup i (closeConn sv i).1.router.blob = none := by
  obtain ⟨h1, h2, -⟩ := Rtr.unreg_spec sv.router h.clients_nodup h.keys_nodup i
  exact ⟨(conn?_close hc i).trans (by rw [markClosed, if_pos (conn?_mem hc).2]), h1, h2⟩

theorem close_other {sv : Server} {i j : Nat} {c : Conn} (h : WF sv) (hc : conn? sv i = some c) (hne : i ≠ j) :
    conn? (closeConn sv j).1 i = some c ∧
      (i ∈ (closeConn sv j).1.router.clients ↔ i ∈ sv.router.clients) := by
  exact ⟨(conn?_close hc j).trans (by rw [markClosed, if_neg fun e => hne ((conn?_mem hc).2.symm.trans e)]),
    (Rtr.unreg_spec sv.router h.clients_nodup h.keys_nodup j).2.2 i hne⟩

/-- the state right after the messages of a chunk were routed, before the handler possibly ends -/
def afterRoute (sv : Server) (i : Nat) (chunk : Str) (ra : Option Nat) (c : Conn) : Server :=
  { router := (routeAll i sv.router (Buf.feed parseMsg tags Generated.defaultThreshold c.data chunk).1 0 ra).1,
    conns := sv.conns.map (setData i (Buf.feed parseMsg tags Generated.defaultThreshold c.data chunk).2) }

/-- a chunk on a served connection: `F` is what the buffer makes of it, `R` what routing `F`'s messages comes to -/
theorem step_recv (sv : Server) (i : Nat) (chunk : Str) (ra : Option Nat) (c : Conn)
    (hc : conn? sv i = some c) (hs : c.serving = true) {F : List Msg × Str} {R : Rtr.State × Out × Bool}
    (hF : Buf.feed parseMsg tags Generated.defaultThreshold c.data chunk = F) (hR : routeAll i sv.router F.1 0 ra = R) :
    step sv (.recv i chunk ra) =
      if R.2.2 = true then
        ((closeConn { router := R.1, conns := sv.conns.map (setData i F.2) } i).1,
         { ops := R.2.1.ops ++ [.unreg i], deliveries := R.2.1.deliveries ++ [[]] })
      else ({ router := R.1, conns := sv.conns.map (setData i F.2) }, R.2.1) := by
  subst hF hR
  unfold conn? at hc
  simp only [step, hc, hs]
  rfl

theorem step_recv_plain (sv : Server) (i : Nat) (chunk : Str) (c : Conn)
    (hc : conn? sv i = some c) (hs : c.serving = true) {F : List Msg × Str}
    (hF : Buf.feed parseMsg tags Generated.defaultThreshold c.data chunk = F) :
    step sv (.recv i chunk none) =
      ({ router := (routeAll i sv.router F.1 0 none).1, conns := sv.conns.map (setData i F.2) },
       (routeAll i sv.router F.1 0 none).2.1) := by
  rw [step_recv sv i chunk none c hc hs hF rfl, (routeAll_spec i none _ sv.router 0).2.2 rfl]
  rfl

theorem step_recv_none (sv : Server) (i : Nat) (chunk : Str) (ra : Option Nat)
    (hc : conn? sv i = none) : step sv (.recv i chunk ra) = (sv, {}) := by
  unfold conn? at hc
  simp only [step, hc]

theorem step_recv_ended (sv : Server) (i : Nat) (chunk : Str) (ra : Option Nat) (c : Conn)
    (hc : conn? sv i = some c) (hs : c.serving = false) : step sv (.recv i chunk ra) = (sv, {}) := by
  unfold conn? at hc
  simp [step, hc, hs]

/-- the state an event leaves before the handler of a connection possibly ends -/
def quiet (sv : Server) : Event → Server
  | .device d => { sv with router := (Rtr.step sv.router (.regDev d)).1 }
  | .connect i tcp => { router := (Rtr.step sv.router (.regCli i)).1, conns := sv.conns ++ [{ id := i, tcp := tcp }] }
  | .publish m sd => { sv with router := (Rtr.step sv.router (.send m sd)).1 }
  | .recv i chunk ra =>
    match conn? sv i with
    | some c => if c.serving then afterRoute sv i chunk ra c else sv
    | none => sv
  | _ => sv

/-- the connection whose handler ends with the event: a served connection that the event ends -/
def closing (sv : Server) (e : Event) : Option Nat :=
  match e with
  | .eof i | .readError i | .recv i _ _ =>
    if (conn? sv i).any (fun c => c.serving && ends sv i e) then some i else none
  | _ => none

theorem step_fst (sv : Server) (e : Event) :
    (step sv e).1 = match closing sv e with
      | some i => (closeConn (quiet sv e) i).1
      | none => quiet sv e := by
  cases e with
  | device _ | connect _ _ | publish _ _ => rfl
  | eof i | readError i =>
    show (match conn? sv i with | some c => if c.serving then closeConn sv i else (sv, {}) | none => (sv, {})).1 = _
    cases hc : conn? sv i with
    | none => simp [closing, hc, quiet]
    | some c => cases hs : c.serving <;> simp [closing, hc, hs, ends, quiet]
  | recv i chunk ra =>
    cases hc : conn? sv i with
    | none => rw [step_recv_none sv i chunk ra hc]; simp [closing, quiet, hc]
    | some c =>
      cases hs : c.serving with
      | false => rw [step_recv_ended sv i chunk ra c hc hs]; simp [closing, quiet, hc, hs]
      | true =>
        rw [step_recv sv i chunk ra c hc hs rfl rfl]
        simp only [closing, quiet, hc, hs, ends, Option.any_some, decide_true, Bool.true_and, if_true]
        split <;> rfl

theorem closing_eq_some {sv : Server} {e : Event} {i : Nat} :
    closing sv e = some i ↔ ∃ c, conn? sv i = some c ∧ c.serving = true ∧ ends sv i e = true := by
  have key : ∀ j, (∀ k, ends sv k e = true → j = k) →
      ((if (conn? sv j).any (fun c => c.serving && ends sv j e) then some j else none) = some i ↔
        ∃ c, conn? sv i = some c ∧ c.serving = true ∧ ends sv i e = true) := by
    intro j hj
    constructor
    · intro h
      split at h
      · rename_i hany
        cases h
        simpa [Option.any_eq_true] using hany
      · cases h
    · rintro ⟨c, hc, hs, he⟩
      cases hj i he
      simp [hc, hs, he]
  cases e with
  | eof j | readError j => exact key j fun k hk => by simpa [ends] using hk
  | recv j chunk ra => exact key j fun k hk => by simp only [ends, Bool.and_eq_true, decide_eq_true_eq] at hk; exact hk.1
  | device _ | connect _ _ | publish _ _ => simp [closing, ends]

theorem quiet_spec {sv : Server} {e : Event} (h : WF sv) (ha : admissible sv e) :
    WF (quiet sv e) ∧ ∀ i c, conn? sv i = some c →
      (∃ rest, conn? (quiet sv e) i = some { c with data := rest } ∧ (c.serving = false → rest = c.data)) ∧
      (i ∈ (quiet sv e).router.clients ↔ i ∈ sv.router.clients) := by
  have same : ∀ r', Same sv.router r' → WF { sv with router := r' } ∧ ∀ i c, conn? sv i = some c →
      (∃ rest, conn? { sv with router := r' } i = some { c with data := rest } ∧ (c.serving = false → rest = c.data)) ∧
      (i ∈ r'.clients ↔ i ∈ sv.router.clients) :=
    fun r' hs => ⟨wf_router h hs, fun i c hc => ⟨⟨c.data, hc, fun _ => rfl⟩, by rw [hs.clients]⟩⟩
  cases e with
  -- registering a device touches neither `clients` nor `blob`
  | device d => exact same _ ⟨rfl, id, fun _ => Iff.rfl⟩
  | publish m sd => exact same _ (process_same _ m sd)
  | eof _ | readError _ => exact same _ (Same.refl _)
  | connect j tcp =>
    refine ⟨wf_connect j tcp h ha, fun i c hc => ⟨⟨c.data, conn?_append sv.router _ sv.conns _ i c hc, fun _ => rfl⟩, ?_⟩⟩
    have hne : i ≠ j := (conn?_mem hc).2 ▸ ha c (conn?_mem hc).1
    simp [quiet, Rtr.step, hne]
  | recv j chunk ra =>
    simp only [quiet]
    split
    · rename_i cj hcj
      split
      · rename_i hsj
        have hr := (routeAll_spec j ra (Buf.feed parseMsg tags Generated.defaultThreshold cj.data chunk).1 sv.router 0).1
        refine ⟨wf_map _ (wf_router h hr) (setData_id _ _) (setData_serving _ _), fun i c hc => ⟨?_, ?_⟩⟩
        · have hq : conn? (afterRoute sv j chunk ra cj) i = _ := conn?_setData hc _ j _
          by_cases hij : i = j
          · subst hij
            rw [hc] at hcj
            cases hcj
            exact ⟨_, by rw [hq, if_pos rfl], fun hs => by rw [hs] at hsj; cases hsj⟩
          · exact ⟨c.data, by rw [hq, if_neg hij], fun _ => rfl⟩
        · simp only [afterRoute, hr.clients]
      · exact same _ (Same.refl _)
    · exact same _ (Same.refl _)

theorem step_deliveries (sv : Server) (e : Event) :
    ∀ ds ∈ (step sv e).2.deliveries, ∀ j, Rtr.Target.cli j ∈ ds → j ∈ sv.router.clients := by
  have nil : ∀ (ds : List Rtr.Target), ds ∈ [([] : List Rtr.Target)] → ∀ j, Rtr.Target.cli j ∈ ds → j ∈ sv.router.clients :=
    fun ds hd j hj => by rw [List.mem_singleton.1 hd] at hj; cases hj
  have ended : ∀ k, ∀ ds ∈ (match conn? sv k with
      | some c => if c.serving then closeConn sv k else (sv, {})
      | none => (sv, {})).2.deliveries, ∀ j, Rtr.Target.cli j ∈ ds → j ∈ sv.router.clients := by
    intro k
    split
    · split
      · exact nil
      · intro ds hd; cases hd
    · intro ds hd; cases hd
  cases e with
  | device _ | connect _ _ => exact nil
  | publish m sd =>
    intro ds hd j hj
    rw [List.mem_singleton.1 hd] at hj
    exact process_deliv _ _ _ _ hj
  | eof i | readError i => exact ended i
  | recv i chunk ra =>
    cases hc : conn? sv i with
    | none => rw [step_recv_none sv i chunk ra hc]; intro ds hd; cases hd
    | some c =>
      cases hs : c.serving with
      | false => rw [step_recv_ended sv i chunk ra c hc hs]; intro ds hd; cases hd
      | true =>
        have hr := (routeAll_spec i ra (Buf.feed parseMsg tags Generated.defaultThreshold c.data chunk).1 sv.router 0).2.1
        rw [step_recv sv i chunk ra c hc hs rfl rfl]
        split
        · intro ds hd
          rcases List.mem_append.mp hd with hd | hd
          · exact hr ds hd
          · exact nil ds hd
        · exact hr

theorem step_other {sv : Server} {e : Event} {i : Nat} {c : Conn} (h : WF sv) (ha : admissible sv e)
    (hc : conn? sv i = some c) (hne : closing sv e ≠ some i) :
    (∃ rest, conn? (step sv e).1 i = some { c with data := rest } ∧ (c.serving = false → rest = c.data)) ∧
      (i ∈ (step sv e).1.router.clients ↔ i ∈ sv.router.clients) := by
  obtain ⟨hwf, hq⟩ := quiet_spec h ha
  obtain ⟨⟨rest, hc', hr⟩, hcl⟩ := hq i c hc
  rw [step_fst]
  split
  · rename_i j hj
    obtain ⟨h1, h2⟩ := close_other hwf hc' (fun e => hne (e ▸ hj))
    exact ⟨⟨rest, h1, hr⟩, h2.trans hcl⟩
  · exact ⟨⟨rest, hc', hr⟩, hcl⟩

theorem run_recvs (i : Nat) : ∀ (pieces : List Str) (sv : Server) (c : Conn),
    conn? sv i = some c → c.serving = true →
    (run sv (pieces.map fun p => Event.recv i p none)).1.router =
      (routeAll i sv.router (Buf.session parseMsg tags Generated.defaultThreshold c.data pieces).1.flatten 0 none).1 ∧
    history (run sv (pieces.map fun p => Event.recv i p none)).2 =
      (routeAll i sv.router (Buf.session parseMsg tags Generated.defaultThreshold c.data pieces).1.flatten 0 none).2.1.ops ∧
    (pieces ≠ [] → (run sv (pieces.map fun p => Event.recv i p none)).1.conns =
      sv.conns.map (setData i (Buf.session parseMsg tags Generated.defaultThreshold c.data pieces).2)) := by
  intro pieces
  induction pieces with
  | nil =>
    intro sv c _ _
    exact ⟨rfl, rfl, fun h => absurd rfl h⟩
  | cons p ps ih =>
    intro sv c hc hs
    generalize hF : Buf.feed parseMsg tags Generated.defaultThreshold c.data p = F
    have hstep := step_recv_plain sv i p c hc hs hF
    have hc' : conn? { router := (routeAll i sv.router F.1 0 none).1, conns := sv.conns.map (setData i F.2) } i =
        some { c with data := F.2 } := (conn?_setData hc _ i _).trans (by rw [if_pos rfl])
    obtain ⟨h1, h2, h3⟩ := ih _ _ hc' hs
    obtain ⟨a1, a2⟩ := routeAll_append i F.1
      (Buf.session parseMsg tags Generated.defaultThreshold F.2 ps).1.flatten sv.router
    simp only [List.map_cons, run, hstep, Buf.session, hF, List.flatten_cons, history, List.flatMap_cons]
    refine ⟨?_, ?_, fun _ => ?_⟩
    · rw [a1]; exact h1
    · rw [a2]; congr 1
    · cases ps with
      | nil => rfl
      | cons q qs =>
        rw [h3 (by simp), List.map_map, setData_setData]

end Indi.Conn
