/-
  The driver model against its specification (Spec/Dev.lean): what `vecOk`/`WF` say and that reads, stored values and
  the other edits keep them (`Rwf`, `Steps.rwf`); the frame relation `VR` of C12 and `c12Holds` from it; that no
  message of a well-formed vector fails to build (`defMsg_ok`, `rawText`); the accepted assignment of C14.
-/
import Indi.Proofs.DevOps
import Indi.Properties.C09

namespace Indi.Dev
open Indi Indi.Spec.Dev

theorem vecOk_elems {v : Vec} (h : vecOk v = true) : ∀ e ∈ v.elems, elemOk v.kind e = true := by
  simp only [vecOk, Bool.and_eq_true, List.all_eq_true] at h
  exact h.2

theorem vecOk_with_elems {v : Vec} (h : vecOk v = true) {es : List Elem} (hes : ∀ e ∈ es, elemOk v.kind e = true) :
    vecOk { v with elems := es } = true := by
  simp only [vecOk, Bool.and_eq_true, List.all_eq_true] at h ⊢
  exact ⟨h.1, hes⟩

theorem vecOk_state {v : Vec} (h : vecOk v = true) : states.contains v.state = true := by
  simp only [vecOk, Bool.and_eq_true] at h
  exact h.1.1

theorem vecOk_perm {v : Vec} (h : vecOk v = true) (hk : v.kind ≠ .light) :
    ∃ p t, v.perm = some p ∧ perms.contains p = true ∧ v.timeout = some t := by
  simp only [vecOk, Bool.and_eq_true] at h
  obtain ⟨⟨_, h2⟩, _⟩ := h
  have h3 : (match v.perm with | some p => perms.contains p | none => false) = true ∧ v.timeout.isSome = true := by
    cases hkind : v.kind <;> rw [hkind] at h2 <;> simp only [Bool.and_eq_true] at h2
    case switch => exact h2.1
    case light => exact absurd hkind hk
    all_goals exact h2
  cases hp : v.perm <;> rw [hp] at h3
  · cases h3.1
  · obtain ⟨t, ht⟩ := Option.isSome_iff_exists.1 h3.2
    exact ⟨_, t, rfl, h3.1, ht⟩

theorem vecOk_rule {v : Vec} (h : vecOk v = true) (hk : v.kind = .switch) : ∃ r, v.rule = some r := by
  simp only [vecOk, Bool.and_eq_true] at h
  obtain ⟨⟨_, h2⟩, _⟩ := h
  rw [hk] at h2
  simp only [Bool.and_eq_true] at h2
  exact Option.isSome_iff_exists.1 h2.2

/-- the vector names, group by group: `WF` asks that they are distinct, and a run keeps them (`DevRel.vnames`) -/
def vnames (d : Device) : List (List Str) := d.groups.map fun g => g.vecs.map (·.name)

theorem WF_iff (d : Device) : WF d = true ↔
    (∀ gi vi g v, getVec d gi vi = some (g, v) → vecOk v = true) ∧ (vnames d).flatten.Nodup := by
  have hn : (allVecs d).map (fun gv => gv.2.name) = (vnames d).flatten := by
    simp [allVecs, vnames, List.map_flatten, List.map_map, Function.comp_def]
  simp only [WF, namesDistinct, hn, Bool.and_eq_true, decide_eq_true_eq, List.all_eq_true, forall_getVec_iff]

theorem WF_namesDistinct {d : Device} (h : WF d = true) : namesDistinct d = true := (Bool.and_eq_true_iff.1 h).2

/-- what `WF` needs a vector to keep: its name (for `Nodup` of the names) and `vecOk`.  The two indices are not used;
they are there so that `Rwf` fits `Steps.rel`. -/
def Rwf (_ _ : Nat) (v v' : Vec) : Prop := v'.name = v.name ∧ (vecOk v = true → vecOk v' = true)

theorem Rwf.refl (gi vi : Nat) (w : Vec) : Rwf gi vi w w := ⟨rfl, id⟩
theorem Rwf.trans (gi vi : Nat) (a b c : Vec) (h1 : Rwf gi vi a b) (h2 : Rwf gi vi b c) : Rwf gi vi a c :=
  ⟨h2.1.trans h1.1, fun h => h2.2 (h1.2 h)⟩

theorem DevRel.vnames {d d' : Device} (h : DevRel Rwf d d') : vnames d' = vnames d := by
  have := congrArg (List.map Prod.snd) (h.proj_eq (·.name) fun _ _ _ _ hr => hr.1)
  simpa [Indi.Dev.vnames, List.map_map, Function.comp_def] using this

theorem DevRel.wf {d d' : Device} (h : DevRel Rwf d d') (hwf : WF d = true) : WF d' = true := by
  rw [WF_iff] at *
  refine ⟨?_, by rw [h.vnames]; exact hwf.2⟩
  intro gi vi g' v' hv'
  rw [getVec_eq_some] at hv'
  obtain ⟨g, h1⟩ := getElem?_some_of_length_eq h.glen.symm hv'.1
  obtain ⟨_, l, r⟩ := h.grp gi g g' h1 hv'.1
  obtain ⟨v, k1⟩ := getElem?_some_of_length_eq l.symm hv'.2
  exact (r vi v v' k1 hv'.2).2 (hwf.1 gi vi g v (getVec_eq_some.2 ⟨h1, k1⟩))

/-- `v'` is `v` up to element values; a value may differ only for refreshing elements and where `F` allows -/
structure VR (F : Nat → Nat → Kind → Str → Prop) (gi vi : Nat) (v v' : Vec) : Prop where
  name : v'.name = v.name
  kind : v'.kind = v.kind
  state : v'.state = v.state
  enabled : v'.enabled = v.enabled
  ok : vecOk v = true → vecOk v' = true
  len : v'.elems.length = v.elems.length
  el : ∀ (i : Nat) e e', v.elems[i]? = some e → v'.elems[i]? = some e' →
        e'.d = e.d ∧ e'.enabled = e.enabled ∧ (e'.value = e.value ∨ hasRefresh e = true ∨ F gi vi v.kind e.d.name)

theorem VR.refl (F) (gi vi : Nat) (w : Vec) : VR F gi vi w w := by
  refine ⟨rfl, rfl, rfl, rfl, id, rfl, ?_⟩
  intro i e e' h1 h2
  rw [h1] at h2; cases h2
  exact ⟨rfl, rfl, Or.inl rfl⟩

theorem VR.trans (F) (gi vi : Nat) (a b c : Vec) (h1 : VR F gi vi a b) (h2 : VR F gi vi b c) : VR F gi vi a c := by
  refine ⟨h2.name.trans h1.name, h2.kind.trans h1.kind, h2.state.trans h1.state, h2.enabled.trans h1.enabled,
    fun h => h2.ok (h1.ok h), h2.len.trans h1.len, ?_⟩
  intro i e e'' k1 k3
  obtain ⟨e', k2⟩ := getElem?_some_of_length_eq h1.len k1
  obtain ⟨a1, a2, a3⟩ := h1.el i e e' k1 k2
  obtain ⟨b1, b2, b3⟩ := h2.el i e' e'' k2 k3
  refine ⟨b1.trans a1, b2.trans a2, ?_⟩
  rcases a3 with a3 | a3 | a3
  · rcases b3 with b3 | b3 | b3
    · exact Or.inl (b3.trans a3)
    · right; left; simpa [hasRefresh, a1] using b3
    · right; right; simpa [h1.kind, a1] using b3
  · exact Or.inr (Or.inl a3)
  · exact Or.inr (Or.inr a3)

theorem VR.mono {F F' : Nat → Nat → Kind → Str → Prop} (h : ∀ gi vi k n, F gi vi k n → F' gi vi k n)
    (gi vi : Nat) (a b : Vec) (hv : VR F gi vi a b) : VR F' gi vi a b := by
  refine ⟨hv.name, hv.kind, hv.state, hv.enabled, hv.ok, hv.len, ?_⟩
  intro i e e' k1 k2
  obtain ⟨a1, a2, a3⟩ := hv.el i e e' k1 k2
  refine ⟨a1, a2, ?_⟩
  rcases a3 with a3 | a3 | a3
  · exact Or.inl a3
  · exact Or.inr (Or.inl a3)
  · exact Or.inr (Or.inr (h _ _ _ _ a3))

theorem VR.rwf (F) (gi vi : Nat) (a b : Vec) (hv : VR F gi vi a b) : Rwf gi vi a b := ⟨hv.name, hv.ok⟩

theorem elemOk_refresh {k : Kind} {e : Dev.Elem} {rv : Value} (h : elemOk k e = true) (hr : e.d.refresh = some rv) :
    valueOk k rv = true ∧ (k = .text ∨ k = .number) := by
  simp only [elemOk, hr, Bool.and_eq_true, Bool.or_eq_true, decide_eq_true_eq] at h
  exact h.1.2

theorem elemOk_value {k : Kind} {e : Dev.Elem} (h : elemOk k e = true) : valueOk k e.value = true := by
  simp only [elemOk, Bool.and_eq_true] at h
  exact h.1.1

theorem elemOk_format {e : Dev.Elem} (h : elemOk .number e = true) : fmtOk e.d.format = true := by
  simp only [elemOk, Bool.and_eq_true, Bool.or_eq_true] at h
  exact h.2.resolve_left (by simp)

theorem elemOk_of {k : Kind} {e e' : Elem} (h : elemOk k e = true) (hd : e'.d = e.d)
    (hv : e'.value = e.value ∨ valueOk k e'.value = true) : elemOk k e' = true := by
  simp only [elemOk, Bool.and_eq_true, hd] at h ⊢
  exact ⟨⟨hv.elim (fun hv => hv ▸ h.1.1) id, h.1.2⟩, h.2⟩

theorem readValue_of_noRefresh {e : Dev.Elem} (h : e.d.refresh = none) : readValue e = e.value := by
  unfold readValue; rw [h]

theorem readValue_cases {k : Kind} {e : Dev.Elem} (h : elemOk k e = true) :
    readValue e = e.value ∨ (valueOk k (readValue e) = true ∧ (k = .text ∨ k = .number)) := by
  unfold readValue
  cases hr : e.d.refresh with
  | none => exact .inl rfl
  | some rv => exact .inr (elemOk_refresh h hr)

theorem readValue_ok {k : Kind} {e : Dev.Elem} (h : elemOk k e = true) : valueOk k (readValue e) = true := by
  rcases readValue_cases h with e | ⟨hv, _⟩
  · rw [e]; exact elemOk_value h
  · exact hv

theorem elemOk_afterRead {k : Kind} {e : Dev.Elem} (h : elemOk k e = true) : elemOk k (afterRead e) = true :=
  elemOk_of h rfl (.inr (readValue_ok h))

theorem vecOk_refresh {v : Vec} (h : vecOk v = true) : vecOk (refreshVec v) = true :=
  vecOk_with_elems h fun e he => by
    obtain ⟨e0, he0, rfl⟩ := List.mem_map.1 he
    split
    · exact elemOk_afterRead (vecOk_elems h e0 he0)
    · exact vecOk_elems h e0 he0

theorem vecOk_defV3 (g : Group) {v : Vec} (h : vecOk v = true) : vecOk (defV3 g v) = true :=
  defV3_ind (P := (vecOk · = true)) g h (vecOk_refresh h)

theorem VR_refreshVec (F) (gi vi : Nat) (v : Vec) : VR F gi vi v (refreshVec v) := by
  refine ⟨rfl, rfl, rfl, rfl, vecOk_refresh, by simp [refreshVec], ?_⟩
  intro i e e' k1 k2
  simp only [refreshVec, List.getElem?_map, k1, Option.map_some, Option.some.injEq] at k2
  subst k2
  split
  · refine ⟨rfl, rfl, ?_⟩
    cases hr : e.d.refresh with
    | none => exact .inl (readValue_of_noRefresh hr)
    | some _ => exact .inr (.inl (by simp [hasRefresh, hr]))
  · exact ⟨rfl, rfl, Or.inl rfl⟩

theorem refreshDef_blob {v : Vec} (h : v.kind = .blob) : refreshDef v = v := by
  unfold refreshDef; rw [if_pos h]

theorem refreshDef_nonblob {v : Vec} (h : v.kind ≠ .blob) : refreshDef v = refreshVec v := by
  unfold refreshDef; rw [if_neg h]

theorem refreshDef_cases (v : Vec) : refreshDef v = v ∨ refreshDef v = refreshVec v := by
  unfold refreshDef; split
  · exact Or.inl rfl
  · exact Or.inr rfl

theorem refreshVec_name (v : Vec) : (refreshVec v).name = v.name := rfl
theorem refreshVec_label (v : Vec) : (refreshVec v).label = v.label := rfl
theorem refreshVec_kind (v : Vec) : (refreshVec v).kind = v.kind := rfl
theorem refreshVec_perm (v : Vec) : (refreshVec v).perm = v.perm := rfl
theorem refreshVec_timeout (v : Vec) : (refreshVec v).timeout = v.timeout := rfl
theorem refreshVec_rule (v : Vec) : (refreshVec v).rule = v.rule := rfl
theorem refreshVec_state (v : Vec) : (refreshVec v).state = v.state := rfl
theorem refreshDef_name (v : Vec) : (refreshDef v).name = v.name := by unfold refreshDef; split <;> rfl
theorem refreshDef_label (v : Vec) : (refreshDef v).label = v.label := by unfold refreshDef; split <;> rfl
theorem refreshDef_kind (v : Vec) : (refreshDef v).kind = v.kind := by unfold refreshDef; split <;> rfl
theorem refreshDef_perm (v : Vec) : (refreshDef v).perm = v.perm := by unfold refreshDef; split <;> rfl
theorem refreshDef_timeout (v : Vec) : (refreshDef v).timeout = v.timeout := by unfold refreshDef; split <;> rfl
theorem refreshDef_rule (v : Vec) : (refreshDef v).rule = v.rule := by unfold refreshDef; split <;> rfl
theorem refreshDef_state (v : Vec) : (refreshDef v).state = v.state := by unfold refreshDef; split <;> rfl
theorem refreshDef_enabled (v : Vec) : (refreshDef v).enabled = v.enabled := by unfold refreshDef; split <;> rfl
theorem refreshDef_elems_length (v : Vec) : (refreshDef v).elems.length = v.elems.length := by
  unfold refreshDef; split
  · rfl
  · simp [refreshVec]

theorem vecEnabled_refreshVec (g : Group) (v : Vec) : vecEnabled g (refreshVec v) = vecEnabled g v := rfl
theorem vecEnabled_refreshDef (g : Group) (v : Vec) : vecEnabled g (refreshDef v) = vecEnabled g v := by
  simp [vecEnabled, refreshDef_enabled]

theorem afterRead_idem (e : Elem) : afterRead (afterRead e) = afterRead e := by
  unfold afterRead readValue
  cases h : e.d.refresh <;> simp

theorem refreshVec_idem (v : Vec) : refreshVec (refreshVec v) = refreshVec v := by
  unfold refreshVec
  simp only [List.map_map]
  congr 1
  apply List.map_congr_left
  intro e _
  simp only [Function.comp]
  by_cases he : e.enabled = true
  · have : (afterRead e).enabled = true := he
    simp [he, this, afterRead_idem]
  · simp [he]

theorem refreshVec_refreshDef (v : Vec) : refreshVec (refreshDef v) = refreshVec v := by
  rcases refreshDef_cases v with h | h <;> rw [h]
  exact refreshVec_idem v

theorem valueOk_onOff (b : Bool) : valueOk .switch (.text (onOff b)) = true := by cases b <;> decide

theorem checkValue_shape {v : Vec} {ei : Nat} {val : Value} {v1 : Vec} {stored : Value}
    (h : checkValue v ei val = .ok (v1, stored)) (ht : typeOk v.kind val = true) :
    valueOk v.kind stored = true ∧
      ((v.kind ≠ .switch ∧ v1 = v ∧ stored = val) ∨
       (v.kind = .switch ∧ ∃ bs b, bs.length = v.elems.length ∧ v1 = putBools v bs ∧ stored = .text (onOff b))) := by
  unfold checkValue at h
  -- kind by kind: a value of the kind's type (`ht`) that passes the check is `valueOk`, which is what each
  -- `simp_all [typeOk, valueOk]` evaluates; only a switch rewrites the vector
  cases hk : v.kind <;> simp only [hk] at h ht ⊢
  case text | blob =>
    cases h
    exact ⟨by cases val <;> simp_all [typeOk, valueOk], .inl ⟨by simp, rfl, rfl⟩⟩
  case number =>
    split at h
    · split at h
      · split at h <;> cases h
      · cases h
        exact ⟨by simp_all [valueOk], .inl ⟨by simp, rfl, rfl⟩⟩
    · cases h
      exact ⟨by cases val <;> simp_all [typeOk, valueOk], .inl ⟨by simp, rfl, rfl⟩⟩
  case switch =>
    split at h
    · split at h
      · cases h
        exact ⟨valueOk_onOff _, .inr ⟨trivial, _, _, by simp [Switch.assignAt_length, bools], rfl, rfl⟩⟩
      · cases h
    · cases h
  case light =>
    split at h
    · split at h
      · cases h
        exact ⟨by simp_all [valueOk], .inl ⟨by simp, rfl, rfl⟩⟩
      · cases h
    · cases h

theorem putBools_getElem? {v : Vec} {bs : List Bool} {i : Nat} {e' : Elem} (h : (putBools v bs).elems[i]? = some e') :
    ∃ e, v.elems[i]? = some e ∧ e'.d = e.d ∧ e'.enabled = e.enabled ∧
      (e'.value = e.value ∨ ∃ b, e'.value = .text (onOff b)) := by
  simp only [putBools, List.getElem?_map, Option.map_eq_some_iff] at h
  obtain ⟨⟨e, b⟩, h1, rfl⟩ := h
  rw [List.getElem?_zip_eq_some] at h1
  refine ⟨e, h1.1, ?_⟩
  dsimp only
  split
  · exact ⟨rfl, rfl, .inl rfl⟩
  · exact ⟨rfl, rfl, .inr ⟨b, rfl⟩⟩

theorem Stores.spec {ei : Nat} {val : Value} {v v2 : Vec} (h : Stores ei val v v2) :
    v2 = { v with elems := v2.elems } ∧ v2.elems.length = v.elems.length ∧
    ∀ i e e', v.elems[i]? = some e → v2.elems[i]? = some e' → e'.d = e.d ∧ e'.enabled = e.enabled ∧
      (e'.value = e.value ∨ valueOk v.kind e'.value = true ∧
        (i = ei ∧ e'.value = val ∨ v.kind = .switch ∧ ∃ b, e'.value = .text (onOff b))) := by
  obtain ⟨e0, v1, stored, he0, ht, hc, rfl⟩ := h
  have hlt := (List.getElem?_eq_some_iff.1 he0).1
  obtain ⟨hso, ⟨hk, rfl, rfl⟩ | ⟨hk, bs, b, hl, rfl, rfl⟩⟩ := checkValue_shape hc ht
  · refine ⟨rfl, by simp [asgV2], ?_⟩
    intro i e e' k1 k2
    simp only [asgV2, List.getElem?_set] at k2
    by_cases hi : ei = i
    · subst hi
      simp only [if_true, hlt, he0, Option.getD_some, Option.some.injEq] at k2
      subst k2
      rw [he0] at k1; cases k1
      exact ⟨rfl, rfl, .inr ⟨hso, .inl ⟨rfl, rfl⟩⟩⟩
    · simp only [hi, if_false] at k2
      rw [k1] at k2; cases k2
      exact ⟨rfl, rfl, .inl rfl⟩
  · have hlen : (putBools v bs).elems.length = v.elems.length := by simp [putBools, hl]
    refine ⟨rfl, by simp [asgV2, hlen], ?_⟩
    intro i e e' k1 k2
    simp only [asgV2, List.getElem?_set] at k2
    by_cases hi : ei = i
    · subst hi
      obtain ⟨x, hx⟩ := getElem?_some_of_length_eq hlen he0
      simp only [if_true, hlen, hlt, hx, Option.getD_some, Option.some.injEq] at k2
      subst k2
      obtain ⟨e1, h1, q1, q2, _⟩ := putBools_getElem? hx
      rw [k1] at h1; cases h1
      exact ⟨q1, q2, .inr ⟨hso, .inr ⟨hk, b, rfl⟩⟩⟩
    · simp only [hi, if_false] at k2
      obtain ⟨e1, h1, q1, q2, q3⟩ := putBools_getElem? k2
      rw [k1] at h1; cases h1
      refine ⟨q1, q2, q3.imp id fun ⟨b', hb'⟩ => ⟨?_, .inr ⟨hk, b', hb'⟩⟩⟩
      rw [hb', hk]; exact valueOk_onOff b'

theorem Stores.stored {ei : Nat} {val : Value} {v v2 : Vec} (h : Stores ei val v v2) (hk : v.kind ≠ .switch)
    {e' : Elem} (he' : v2.elems[ei]? = some e') : e'.value = val := by
  obtain ⟨e0, v1, stored, he0, ht, hc, rfl⟩ := h
  obtain ⟨_, ⟨_, rfl, rfl⟩ | ⟨hk', _⟩⟩ := checkValue_shape hc ht
  · simp only [asgV2, List.getElem?_set, if_true, (List.getElem?_eq_some_iff.1 he0).1, Option.some.injEq] at he'
    rw [← he']
  · exact absurd hk' hk

theorem Stores.vr {F} {gi vi ei : Nat} {val : Value} {v v2 : Vec} (h : Stores ei val v v2)
    (hF : ∀ e, v.elems[ei]? = some e → (v.kind = .switch → ∀ nm, F gi vi .switch nm) ∧ F gi vi v.kind e.d.name) :
    VR F gi vi v v2 := by
  obtain ⟨hfr, hlen, hel⟩ := h.spec
  obtain ⟨e0, _, _, he0, _⟩ := h
  refine ⟨by rw [hfr], by rw [hfr], by rw [hfr], by rw [hfr], ?_, hlen, ?_⟩
  · intro hok
    rw [hfr]
    refine vecOk_with_elems hok fun e' he' => ?_
    obtain ⟨i, hi⟩ := List.mem_iff_getElem?.1 he'
    obtain ⟨e, he⟩ := getElem?_some_of_length_eq hlen.symm hi
    obtain ⟨q1, _, q3⟩ := hel i e e' he hi
    exact elemOk_of (vecOk_elems hok e (List.mem_of_getElem? he)) q1 (q3.imp id And.left)
  · intro i e e' k1 k2
    obtain ⟨q1, q2, q3⟩ := hel i e e' k1 k2
    refine ⟨q1, q2, q3.imp id fun ⟨_, h⟩ => .inr ?_⟩
    rcases h with ⟨rfl, _⟩ | ⟨hk, _⟩
    · exact (hF e k1).2
    · rw [hk]; exact (hF e0 he0).1 hk _

theorem Stores.shape {gi vi ei : Nat} {val : Value} {v v2 : Vec} (h : Stores ei val v v2) :
    VR (fun _ _ _ _ => True) gi vi v v2 :=
  h.vr fun _ _ => ⟨fun _ _ => trivial, trivial⟩

theorem Stores.enabled {ei : Nat} {val : Value} {v v2 : Vec} (h : Stores ei val v v2) : v2.enabled = v.enabled :=
  (h.shape (gi := 0) (vi := 0)).enabled

theorem Writes.enabled {ps : List Part} {v v2 : Vec} (h : Writes ps v v2) : v2.enabled = v.enabled := by
  obtain ⟨_, _, _, _, _, _, _, _, hs⟩ := h
  exact hs.enabled

theorem Stores.values {Q : Value → Prop} {ei : Nat} {val : Value} {v v2 : Vec} (h : Stores ei val v v2) (hval : Q val)
    (hon : ∀ b, Q (.text (onOff b))) (hv : ∀ e ∈ v.elems, Q e.value) : ∀ e ∈ v2.elems, Q e.value := by
  obtain ⟨_, hlen, hel⟩ := h.spec
  intro e' he'
  obtain ⟨i, hi⟩ := List.mem_iff_getElem?.1 he'
  obtain ⟨e, he⟩ := getElem?_some_of_length_eq hlen.symm hi
  obtain ⟨_, _, q3⟩ := hel i e e' he hi
  rcases q3 with q3 | ⟨_, ⟨_, q3⟩ | ⟨_, b, q3⟩⟩ <;> rw [q3]
  · exact hv e (List.mem_of_getElem? he)
  · exact hval
  · exact hon b

/-- a read leaves the value or brings in one that is no BLOB -/
theorem readValue_nonblob {Q : Value → Prop} (hQ : ∀ x, (∀ bs f, x ≠ .blob bs f) → Q x) {k : Kind} {e : Elem}
    (h : elemOk k e = true) (hq : Q e.value) : Q (readValue e) := by
  rcases readValue_cases h with e | ⟨hv, rfl | rfl⟩
  · rw [e]; exact hq
  all_goals exact hQ _ fun bs f hx => by rw [hx] at hv; cases hv

theorem refreshVec_values {Q : Value → Prop} (hQ : ∀ x, (∀ bs f, x ≠ .blob bs f) → Q x) {v : Vec} (hok : vecOk v = true)
    (hv : ∀ e ∈ v.elems, Q e.value) : ∀ e ∈ (refreshVec v).elems, Q e.value := by
  simp only [refreshVec, List.mem_map]
  rintro e ⟨e0, he0, rfl⟩
  split
  · exact readValue_nonblob hQ (vecOk_elems hok e0 he0) (hv e0 he0)
  · exact hv e0 he0

/-- definition then set message: together they read what a set message alone reads -/
theorem asgV3_defV3 (g : Group) (v : Vec) : asgV3 g (defV3 g v) = asgV3 g v := by
  unfold asgV3 defV3
  by_cases h : vecEnabled g v = true
  · simp [h, vecEnabled_refreshDef, refreshVec_refreshDef]
  · simp [h]

theorem Steps.vr {F E} {d d' : Device} {ms : List Msg} (h : Steps E d ms d')
    (hE : ∀ gi vi v v1, E gi vi v v1 → VR F gi vi v v1) : DevRel (VR F) d d' :=
  h.rel (VR.refl F) (VR.trans F) hE (VR_refreshVec F)

theorem setValue_dev (d : Device) (a : Addr) (val : Value) :
    (setValue d a val).dev = d ∨ (setValue d a val).dev = (assign d a val).dev :=
  (setValue_spec d a val).imp (·.1) (·.1)

theorem setValue_rel {F} (d : Device) (a : Addr) (val : Value)
    (hF : ∀ g v e, getVec d a.g a.v = some (g, v) → v.elems[a.e]? = some e →
      (v.kind = .switch → ∀ nm, F a.g a.v .switch nm) ∧ F a.g a.v v.kind e.d.name) :
    DevRel (VR F) d (setValue d a val).dev :=
  (setValue_wrun d a val).steps.vr fun _ _ v _ ⟨hg, hv, ⟨g, hgv⟩, hs⟩ => hg ▸ hv ▸ hs.vr fun e he => hF g v e hgv he

theorem findVecByName_some {d : Device} {n : Str} {gi vi : Nat} (h : findVecByName d n = some (gi, vi)) :
    ∃ g v, getVec d gi vi = some (g, v) ∧ v.name = n := by
  unfold findVecByName at h
  simp only [Option.map_eq_some_iff] at h
  obtain ⟨⟨nm, gj, vj⟩, h1, h4⟩ := h
  have h2 := List.find?_some h1
  have h3 := List.mem_of_find?_eq_some h1
  simp only [Prod.mk.injEq] at h4
  obtain ⟨rfl, rfl⟩ := h4
  simp only [List.mem_reverse, List.mem_flatten, List.mem_map] at h3
  obtain ⟨l, ⟨⟨g, gi'⟩, hg, rfl⟩, hl⟩ := h3
  simp only [List.mem_map] at hl
  obtain ⟨⟨v, vi'⟩, hv, hh⟩ := hl
  simp only [Prod.mk.injEq] at hh
  obtain ⟨rfl, rfl, rfl⟩ := hh
  rw [List.mem_zipIdx_iff_getElem?] at hg hv
  exact ⟨g, v, getVec_eq_some.2 ⟨hg, hv⟩, by simpa using h2⟩

/-- the elements a `new*Vector` may touch in vector (gi0, vi0) -/
def Free (gi0 vi0 : Nat) (names : List Str) : Nat → Nat → Kind → Str → Prop :=
  fun gi vi k nm => gi = gi0 ∧ vi = vi0 ∧ (k = .switch ∨ nm ∈ names)

/-- no element is free: `Free` for a message that writes nothing -/
def NoFree : Nat → Nat → Kind → Str → Prop := fun _ _ _ _ => False

theorem applyChildren_rel (gi vi : Nat) (names : List Str) (ps : List Part) (d : Device)
    (hn : ∀ p ∈ ps, ∀ n, childName p = some n → n ∈ names) :
    DevRel (VR (Free gi vi names)) d (applyChildren gi vi d ps).dev :=
  (applyChildren_wrun gi vi ps d).steps.vr fun _ _ v _ h => by
    obtain ⟨rfl, rfl⟩ := h.pos
    obtain ⟨p, hp, n, ei, _, hnm, hei, _, hs⟩ := h.edit
    refine hs.vr fun e he => ⟨fun _ _ => ⟨rfl, rfl, .inl rfl⟩, rfl, rfl, .inr ?_⟩
    obtain ⟨e0, k1, k2⟩ := findElemByName_some hei
    rw [he] at k1; cases k1
    rw [k2]; exact hn p hp n hnm

theorem mapParts_ok_iff {f : Elem → Except Exc Part} : ∀ {es : List Elem} {ps : List Part},
    mapParts f es = .ok ps ↔ (es.filter (·.enabled)).map f = ps.map .ok
  | [], ps => by cases ps <;> simp [mapParts]
  | e :: es, ps => by
    have ih := @mapParts_ok_iff f es
    unfold mapParts
    cases he : e.enabled
    · simpa [he] using ih
    · cases hf : f e with
      | error x => cases ps <;> simp [hf, he]
      | ok p => cases hr : mapParts f es <;> cases ps <;> simp [he, hf, ← ih, hr]

theorem mapParts_mem {f : Elem → Except Exc Part} {es : List Elem} {ps : List Part}
    (h : mapParts f es = .ok ps) : ∀ p ∈ ps, ∃ e ∈ es, e.enabled = true ∧ f e = .ok p := by
  intro p hp
  have : Except.ok p ∈ (es.filter (·.enabled)).map f := mapParts_ok_iff.1 h ▸ List.mem_map.2 ⟨p, hp, rfl⟩
  obtain ⟨e, he, hfe⟩ := List.mem_map.1 this
  exact ⟨e, (List.mem_filter.1 he).1, (List.mem_filter.1 he).2, hfe⟩

theorem mapParts_ok {f : Elem → Except Exc Part} {es : List Elem} (h : ∀ e ∈ es, ∃ p, f e = .ok p) :
    ∃ ps, mapParts f es = .ok ps := by
  cases hm : mapParts f es with
  | ok ps => exact ⟨ps, rfl⟩
  | error x =>
    obtain ⟨e, he, hx⟩ := mapParts_err f es x hm
    obtain ⟨p, hp⟩ := h e he
    rw [hx] at hp; cases hp

theorem renderNum_ok {fmt : Str} (hf : fmtOk fmt = true) {v : Value} (hv : valueOk .number v = true) :
    ∃ t, renderNum fmt v = .ok t := by
  cases v with
  | none => exact ⟨none, rfl⟩
  | num x i =>
    unfold fmtOk at hf
    unfold renderNum Num.numToStr
    cases hp : Num.parseFmt fmt with
    | none => simp [hp] at hf
    | some f =>
      simp only [hp] at hf ⊢
      cases f with
      | sexa frac =>
        simp only at hf
        unfold Num.render
        cases hb : Num.sexaBase frac with
        | none => simp [hb] at hf
        | some b => simp only [hb]; exact ⟨_, rfl⟩
      | f fl w p => exact ⟨_, rfl⟩
      | d fl w p => exact ⟨_, rfl⟩
  | text t => simp [valueOk] at hv
  | blob b f => simp [valueOk] at hv
  | other => simp [valueOk] at hv

theorem valueFromPart_inv {k : Kind} {p : Part} {val : Value} (h : valueFromPart k p = .ok val) :
    (∀ bs f, val ≠ .blob bs f) ∨
    (k = .blob ∧ ∃ t bs, B64.decode t = .ok bs ∧ val = .blob bs ((alookup (s "format") p.fields).getD none)) := by
  unfold valueFromPart at h
  cases k <;> simp only at h
  case blob =>
    -- of the BLOB branches only the last returns a value; `‹_›` is its `B64.decode t = .ok bytes`
    repeat' split at h
    all_goals cases h
    exact .inr ⟨rfl, _, _, ‹_›, rfl⟩
  all_goals
    repeat' split at h
    all_goals first | (cases h; exact .inl fun _ _ => nofun) | cases h

theorem vecTag_take3 (p : String) (hp : (s p).length = 3) (k : Kind) :
    (s (p ++ kindName k ++ "Vector")).take 3 = s p := by
  simp only [s, String.append_assoc, String.toList_append]
  rw [← hp]
  exact List.take_left

/-- the text a value of a non-BLOB element is published as: `defPart` and `onePart` both carry the element's name
and this text (`defPart_eq`, `onePart_eq`) -/
def rawText (k : Kind) (fmt : Str) (v : Value) : Except Exc (Option Str) :=
  match k with
  | .number => (match renderNum fmt v with | .ok t => .ok t | .fail x => .error x)
  | .text => (match v with | .none => .ok none | .text t => .ok (some t) | _ => .error .other)
  | _ => (match v with | .text t => .ok (some t) | _ => .error .valueError)

/-- the attributes a `defNumber` carries beyond name, value and label -/
def defExtra (k : Kind) (d : ElemDef) : List (Str × Option Str) :=
  match k with
  | .number => [(s "format", some d.format), (s "min", some d.min), (s "max", some d.max), (s "step", some d.step)]
  | _ => []

theorem onePart_eq {k : Kind} (hk : k ≠ .blob) (e : Elem) :
    onePart k e = (rawText k e.d.format (readValue e)).map fun t =>
      ({ tag := s ("one" ++ kindName k), fields := [(s "name", some e.d.name), (s "value", t)] } : Part) := by
  unfold onePart rawText
  cases k
  case blob => exact absurd rfl hk
  case number => simp only; cases renderNum e.d.format (readValue e) <;> rfl
  all_goals (simp only; cases readValue e <;> rfl)

theorem defPart_eq {k : Kind} (hk : k ≠ .blob) (e : Elem) :
    defPart k e = (rawText k e.d.format (readValue e)).map fun t =>
      ({ tag := s ("def" ++ kindName k),
         fields := (s "name", some e.d.name) :: (s "value", t) :: (s "label", some e.d.label) :: defExtra k e.d } : Part) := by
  unfold defPart rawText
  cases k
  case blob => exact absurd rfl hk
  case number => simp only; cases renderNum e.d.format (readValue e) <;> rfl
  all_goals (simp only; cases readValue e <;> rfl)

theorem rawText_ok {k : Kind} {e : Elem} (h : elemOk k e = true) (hk : k ≠ .blob) :
    ∃ t, rawText k e.d.format (readValue e) = .ok t := by
  have hv := readValue_ok h
  unfold rawText
  cases k with
  | blob => exact absurd rfl hk
  | number =>
    obtain ⟨t, ht⟩ := renderNum_ok (elemOk_format h) hv
    exact ⟨t, by simp only [ht]⟩
  | _ => cases hr : readValue e <;> simp [hr, valueOk] at hv ⊢

theorem defPart_ok {k : Kind} {e : Dev.Elem} (h : elemOk k e = true) : ∃ p, defPart k e = .ok p := by
  by_cases hk : k = .blob
  · subst hk; exact ⟨_, rfl⟩
  · obtain ⟨t, ht⟩ := rawText_ok h hk
    exact ⟨_, by rw [defPart_eq hk, ht]; rfl⟩

theorem onePart_ok {k : Kind} {e : Dev.Elem} (h : elemOk k e = true) : ∃ p, onePart k e = .ok p := by
  by_cases hk : k = .blob
  · subst hk
    have hv := readValue_ok h
    unfold onePart
    cases hr : readValue e <;> simp [hr, valueOk] at hv ⊢
  · obtain ⟨t, ht⟩ := rawText_ok h hk
    exact ⟨_, by rw [onePart_eq hk, ht]; rfl⟩

theorem defMsg_ok (dev : Str) (g : Group) {v : Vec} (h : vecOk v = true) : ∃ m, defMsg dev g v = .ok m := by
  unfold defMsg
  split
  · exact ⟨_, rfl⟩
  · obtain ⟨ps, hps⟩ := mapParts_ok (f := defPart v.kind) fun e he => defPart_ok (vecOk_elems h e he)
    simp only [hps]
    exact ⟨_, rfl⟩

theorem sendDefs_exc (l : List (Nat × Nat)) : ∀ d, (∀ gi vi g v, getVec d gi vi = some (g, v) → vecOk v = true) →
    (sendDefs d l).exc = none := by
  induction l with
  | nil => intro d _; rfl
  | cons p l ih =>
    intro d hd
    obtain ⟨gi, vi⟩ := p
    unfold sendDefs
    split
    · exact ih d hd
    · rename_i g v hv
      have hok := hd gi vi g v hv
      obtain ⟨m, hm⟩ := defMsg_ok d.name g hok
      simp only [hm]
      exact (mergeRes_exc _ _ rfl).trans (ih _ (all_setVec hd (vecOk_defV3 g hok)))

theorem setValue_exc_cases (d : Device) (a : Addr) (val : Value) :
    (setValue d a val).exc = none ∨ (setValue d a val).exc = some .keyError ∨
      (setValue d a val).exc = (assign d a val).exc := by
  rcases setValue_spec d a val with ⟨_, _, h | h⟩ | ⟨_, _, h⟩
  · exact .inl h
  · exact .inr (.inl h)
  · exact .inr (.inr h)

/- `addressed` and `named` are the local definitions of that name in `c12Holds` (Spec/Dev.lean), copied, so that
  `c12_of_rel` meets them by unfolding. -/

def addressed (m : Msg) (v : Vec) : Bool :=
  m.tag.take 3 = s "new" && (alookup (s "name") m.fields).getD none == some v.name && newTag v.kind == some m.tag

def named (m : Msg) : List Str := (m.children.getD []).filterMap fun p => (alookup (s "name") p.fields).getD none

/-- what `F` frees, `c12Holds` lets differ: elements of a vector that `m` addresses, named by a child of `m` or
switches -/
def FreeOk (d : Device) (m : Msg) (F : Nat → Nat → Kind → Str → Prop) : Prop :=
  ∀ gi vi g v nm, getVec d gi vi = some (g, v) → F gi vi v.kind nm →
    addressed m v = true ∧ (nm ∈ named m ∨ v.kind = .switch)

theorem fromClient_rel (d : Device) (m : Msg) :
    ∃ F, DevRel (VR F) d (fromClient d m).dev ∧ FreeOk d m F := by
  have hno : FreeOk d m NoFree := fun _ _ _ _ _ _ h => h.elim
  rcases fromClient_cases d m with ⟨L, h⟩ | ⟨n, gi, vi, g, v, hnew, hn, hfind, hv, htag, h⟩ | h <;> rw [h]
  · exact ⟨NoFree, (sendDefs_steps NoEdit L d).vr fun _ _ _ _ h => h.elim, hno⟩
  · refine ⟨Free gi vi (named m), applyChildren_rel gi vi _ _ d fun p hp n' hn' => ?_, ?_⟩
    · simp only [named, List.mem_filterMap]
      exact ⟨p, hp, hn'⟩
    · rintro gi' vi' g' v' nm hv' ⟨rfl, rfl, hfree⟩
      rw [hv] at hv'; cases hv'
      obtain ⟨g2, v2, k1, k2⟩ := findVecByName_some hfind
      rw [hv] at k1; cases k1
      refine ⟨?_, hfree.symm⟩
      simp [addressed, hnew, hn, k2, htag]
  · exact ⟨NoFree, DevRel.refl (VR.refl _) d, hno⟩

theorem elemsAgree_of (free : Nat → Elem → Bool) (a b : List Elem) (hl : a.length = b.length)
    (h : ∀ (i : Nat) x y, a[i]? = some x → b[i]? = some y →
      free i x = true ∨ hasRefresh x = true ∨ (x.value = y.value ∧ x.enabled = y.enabled)) :
    elemsAgree free a b = true := by
  unfold elemsAgree
  simp only [Bool.and_eq_true, beq_iff_eq, List.all_eq_true]
  refine ⟨hl, ?_⟩
  rintro ⟨⟨x, y⟩, i⟩ hxy
  rw [List.mem_zipIdx_iff_getElem?, List.getElem?_zip_eq_some] at hxy
  rcases h i x y hxy.1 hxy.2 with h1 | h1 | ⟨h1, h2⟩
  · simp [h1]
  · simp [h1]
  · simp [h1, h2]

theorem c12_of_rel (d d' : Device) (m : Msg) (F) (h : DevRel (VR F) d d') (hF : FreeOk d m F) :
    c12Holds d m false d' = true := by
  unfold c12Holds
  simp only [Bool.not_false, Bool.true_and]
  refine h.zip_all _ fun gi vi g v v' hgv hr => ?_
  dsimp only
  have key : ∀ (free : Nat → Elem → Bool),
      (∀ e, F gi vi v.kind e.d.name → ∀ i, free i e = true) → vecAgree free v v' = true := by
    intro free hfree
    unfold vecAgree
    simp only [Bool.and_eq_true, beq_iff_eq]
    refine ⟨⟨hr.state.symm, hr.enabled.symm⟩, ?_⟩
    apply elemsAgree_of _ _ _ hr.len.symm
    intro i x y hx hy
    obtain ⟨q1, q2, q3⟩ := hr.el i x y hx hy
    rcases q3 with q3 | q3 | q3
    · exact Or.inr (Or.inr ⟨q3.symm, q2.symm⟩)
    · exact Or.inr (Or.inl q3)
    · exact Or.inl (hfree x q3 i)
  split
  · -- the addressed vector: what `F` frees is named by a child, or the vector is a switch
    apply key
    intro e he i
    obtain ⟨_, h2⟩ := hF gi vi g v _ hgv he
    rcases h2 with h2 | h2
    · exact Bool.or_eq_true_iff.2 (.inl (List.contains_iff_mem.2 h2))
    · simp [h2]
  · -- any other vector: `F` frees nothing
    rename_i hna
    apply key
    intro e he i
    exact absurd (hF gi vi g v _ hgv he).1 hna

theorem Steps.rwf {E} {d d' : Device} {ms : List Msg} (h : Steps E d ms d')
    (hE : ∀ gi vi v v1, E gi vi v v1 → Rwf gi vi v v1) : DevRel Rwf d d' :=
  h.rel Rwf.refl Rwf.trans hE fun _ _ _ => ⟨rfl, vecOk_refresh⟩

theorem Stores.rwf {gi vi ei : Nat} {val : Value} {v v2 : Vec} (h : Stores ei val v v2) : Rwf gi vi v v2 :=
  VR.rwf _ gi vi _ _ h.shape

theorem SetsState.rwf {gi vi : Nat} {v v1 : Vec} (h : SetsState v v1) : Rwf gi vi v v1 := by
  obtain ⟨t, ht, rfl⟩ := h
  refine ⟨rfl, fun h => ?_⟩
  simp only [vecOk, Bool.and_eq_true] at h ⊢
  exact ⟨⟨ht, h.1.2⟩, h.2⟩

theorem SetsElemFlag.rwf {gi vi : Nat} {v v1 : Vec} (h : SetsElemFlag v v1) : Rwf gi vi v v1 := by
  obtain ⟨ei, e, b, he, rfl⟩ := h
  refine ⟨rfl, fun h => vecOk_with_elems h fun y hy => ?_⟩
  rcases List.mem_or_eq_of_mem_set hy with h1 | rfl
  · exact vecOk_elems h y h1
  · exact elemOk_of (vecOk_elems h e (List.mem_of_getElem? he)) rfl (.inl rfl)

theorem setState_rel (d : Device) (gi vi : Nat) (st : Option Str) : DevRel Rwf d (setState d gi vi st).dev :=
  (setState_wrun d gi vi st).steps.rwf fun _ _ _ _ h => h.edit.rwf

theorem enableVec_rel (d : Device) (gi vi : Nat) (b : Bool) : DevRel Rwf d (enableVec d gi vi b).dev := by
  unfold enableVec
  split
  · exact DevRel.refl Rwf.refl d
  · rename_i g v hv
    exact DevRel.trans Rwf.trans (DevRel.of_setVec (v' := { v with enabled := b }) Rwf.refl hv ⟨rfl, id⟩)
      ((announce_steps NoEdit _ gi vi).rwf fun _ _ _ _ h => h.elim)

theorem WF_of_vecs {d d' : Device} (h : d'.groups.map (·.vecs) = d.groups.map (·.vecs)) : WF d' = WF d := by
  have e : ∀ d : Device, WF d = ((d.groups.map (·.vecs)).all (·.all vecOk) &&
      decide (((d.groups.map (·.vecs)).map (·.map (·.name))).flatten.Nodup)) := fun d => by
    simp [WF, namesDistinct, allVecs, List.all_map, List.map_flatten, Function.comp_def]
  rw [e, e, h]

theorem enableGroup_wf (d : Device) (hwf : WF d = true) (gi : Nat) (b : Bool) : WF (enableGroup d gi b).dev = true := by
  unfold enableGroup
  split
  · exact hwf
  · rename_i g hg
    apply ((announceAll_steps NoEdit gi _ _).rwf fun _ _ _ _ h => h.elim).wf
    rw [WF_of_vecs (d := d), hwf]
    obtain ⟨hlt, rfl⟩ := List.getElem?_eq_some_iff.1 hg
    have := List.set_getElem_self (as := d.groups.map (·.vecs)) (i := gi) (by simpa using hlt)
    simpa [List.map_set] using this

/-- the number of `set*Vector` messages among `ms`: the `published` that `c14Holds` is given -/
def countSets (ms : List Msg) : Nat := (ms.filter fun m => m.tag.take 3 = s "set").length

theorem noRefresh_of_VR {F} {gi vi : Nat} {v v' : Vec} (h : VR F gi vi v v')
    (hnr : v.elems.any hasRefresh = false) : v'.elems.any hasRefresh = false := by
  rw [List.any_eq_false] at *
  intro x hx
  obtain ⟨i, hi⟩ := List.mem_iff_getElem?.1 hx
  obtain ⟨e, he⟩ := getElem?_some_of_length_eq h.len.symm hi
  obtain ⟨q1, _, _⟩ := h.el i e x he hi
  have := hnr e (List.mem_of_getElem? he)
  simpa [hasRefresh, q1] using this

theorem refreshVec_eq_self (v : Vec) (h : ∀ e ∈ v.elems, e.enabled = true → readValue e = e.value) : refreshVec v = v := by
  have : v.elems.map (fun e => if e.enabled then afterRead e else e) = v.elems := by
    conv => rhs; rw [← List.map_id v.elems]
    apply List.map_congr_left
    intro e he
    split
    · rename_i hen
      simp [afterRead, h e he hen]
    · rfl
  unfold refreshVec
  rw [this]

theorem asgV3_eq_self (g : Group) (v : Vec) (h : ∀ e ∈ v.elems, e.enabled = true → readValue e = e.value) : asgV3 g v = v :=
  asgV3_ind (P := (· = v)) g rfl (refreshVec_eq_self v h)

theorem reads_of_noRefresh {v : Vec} (hnr : v.elems.any hasRefresh = false) :
    ∀ e ∈ v.elems, e.enabled = true → readValue e = e.value := fun e he _ =>
  readValue_of_noRefresh (by simpa [hasRefresh] using List.any_eq_false.1 hnr e he)

theorem refreshVec_noRefresh (v : Vec) (hnr : v.elems.any hasRefresh = false) : refreshVec v = v :=
  refreshVec_eq_self v (reads_of_noRefresh hnr)

theorem refreshDef_noRefresh (v : Vec) (hnr : v.elems.any hasRefresh = false) : refreshDef v = v := by
  rcases refreshDef_cases v with h | h <;> rw [h]
  exact refreshVec_noRefresh v hnr

theorem setMsg_count (n : Str) (g : Group) (v : Vec) (m : Option Msg) (h : setMsg n g v = .ok m) :
    countSets m.toList = if vecEnabled g v then 1 else 0 := by
  unfold setMsg at h
  split at h
  · -- not enabled: nothing is published
    rename_i hen
    cases h
    replace hen : vecEnabled g v = false := by simpa using hen
    simp [hen, countSets]
  · -- enabled: one message, and its tag begins with `set`
    rename_i hen
    replace hen : vecEnabled g v = true := by simpa using hen
    split at h
    · cases h
    · cases h
      simp [hen, countSets, Option.toList, List.filter, vecTag_take3 "set" rfl]

theorem pyNe_self (x : Value) : pyNe x x = false := by
  cases x <;> simp [pyNe]

theorem assign_accepted (d : Device) (a : Addr) (val : Value) (g : Group) (v : Vec) (e : Elem)
    (hv : getVec d a.g a.v = some (g, v)) (he : v.elems[a.e]? = some e)
    (hnr : v.elems.any hasRefresh = false) (hok : (assign d a val).exc = none) :
    ∃ v2 e' mo, Stores a.e val v v2 ∧ v2.elems[a.e]? = some e' ∧ setMsg d.name g v2 = .ok mo ∧
      assign d a val =
        { dev := setVec d a.g a.v v2, msgs := mo.toList,
          calls := (if pyNe e.value e'.value then fireChange e.d.changeH e.value e'.value else ([], [])).1,
          tasks := (if pyNe e.value e'.value then fireChange e.d.changeH e.value e'.value else ([], [])).2 } := by
  rcases assign_cases d a val g v e hv he with ⟨_, h1⟩ | ⟨_, y, hy, h1⟩ | ⟨ht, v1, stored, hc, ⟨y, hy, h1⟩ | ⟨m, hm, h1⟩⟩
  · rw [h1] at hok; cases hok
  · rw [h1] at hok; cases hok
  · rw [h1] at hok; cases hok
  · have hs : Stores a.e val v (asgV2 v1 a.e e stored) := ⟨e, v1, stored, he, ht, hc, rfl⟩
    have hvr := hs.shape (gi := a.g) (vi := a.v)
    obtain ⟨e', he'⟩ := getElem?_some_of_length_eq hvr.len he
    refine ⟨_, e', m, hs, he', hm, ?_⟩
    have h3 := asgV3_eq_self g _ (reads_of_noRefresh (noRefresh_of_VR hvr hnr))
    rw [h1, h3]
    simp only [asgNow, he', Option.map_some, Option.getD_some]

theorem assign_exact (d : Device) (a : Addr) (val : Value) (g : Group) (v : Vec) (e : Elem)
    (hv : getVec d a.g a.v = some (g, v)) (he : v.elems[a.e]? = some e)
    (ht : typeOk v.kind val = true) (hc : checkValue v a.e val = .ok (v, val))
    (hnr : ∀ e ∈ v.elems, e.enabled = true → e.d.refresh = none) :
    (assign d a val).dev = setVec d a.g a.v { v with elems := v.elems.set a.e { e with value := val } } ∧
    ∀ mo, setMsg d.name g { v with elems := v.elems.set a.e { e with value := val } } = .ok mo →
      (assign d a val).msgs = mo.toList := by
  have h3 : asgV3 g (asgV2 v a.e e val) = asgV2 v a.e e val := asgV3_eq_self g _ fun e' he' hen => by
    rw [asgV2_eq he] at he'
    refine readValue_of_noRefresh ?_
    rcases List.mem_or_eq_of_mem_set he' with h | rfl
    · exact hnr e' h hen
    · exact hnr e (List.mem_of_getElem? he) hen
  rw [← asgV2_eq he]
  rcases assign_cases d a val g v e hv he with ⟨h1, _⟩ | ⟨_, x, h1, _⟩ | ⟨_, v1, stored, h1, h2⟩
  · rw [ht] at h1; cases h1
  · rw [hc] at h1; cases h1
  · cases hc.symm.trans h1
    rcases h2 with ⟨x, hx, h2⟩ | ⟨m, hm, h2⟩
    · exact ⟨by rw [h2], fun m' hm' => by rw [hx] at hm'; cases hm'⟩
    · rw [h3] at h2
      exact ⟨by rw [h2], fun m' hm' => by rw [hm] at hm'; cases hm'; rw [h2]⟩

end Indi.Dev
