/-
  The string helpers of Model/Msg.lean: blanks and `strip()`, `\d` and `spanDigits`.  The namespace is `Indi.Num`,
  as in Model/Num.lean and Proofs/NumText.lean; `Indi.s_inj`, for comparing texts as `String`s, is here as well.
-/
import Indi.Model.Msg

namespace Indi.Num

/-- texts are compared as `String`s, which `simp` does on the literals, not character by character -/
theorem _root_.Indi.s_inj {a b : String} : s a = s b ↔ a = b := String.toList_inj

def Digs (ds : Str) : Prop := ∀ c ∈ ds, pyIsDigit c = true
def NoSpace (x : Str) : Prop := ∀ c ∈ x, pyIsSpace c = false
def AllSp (l : Str) : Prop := ∀ c ∈ l, c = ' '

theorem Digs.append {a b} (ha : Digs a) (hb : Digs b) : Digs (a ++ b) :=
  fun c hc => (List.mem_append.mp hc).elim (ha c) (hb c)
theorem NoSpace.append {a b : Str} (ha : NoSpace a) (hb : NoSpace b) : NoSpace (a ++ b) :=
  fun c hc => (List.mem_append.mp hc).elim (ha c) (hb c)
theorem AllSp.append {a b : Str} (ha : AllSp a) (hb : AllSp b) : AllSp (a ++ b) :=
  fun c hc => (List.mem_append.mp hc).elim (ha c) (hb c)

theorem Digs_nil : Digs [] := fun _ hc => nomatch hc
theorem NoSpace_nil : NoSpace [] := fun _ hc => nomatch hc
theorem AllSp_nil : AllSp [] := fun _ hc => nomatch hc
theorem Digs_cons {a ds} : Digs (a :: ds) ↔ pyIsDigit a = true ∧ Digs ds := List.forall_mem_cons
theorem NoSpace_cons {a x} : NoSpace (a :: x) ↔ pyIsSpace a = false ∧ NoSpace x := List.forall_mem_cons
theorem AllSp_replicate (n : Nat) : AllSp (List.replicate n ' ') := fun _ hc => (List.mem_replicate.mp hc).2

def Blank (l : Str) : Prop := ∀ c ∈ l, pyIsSpace c = true

theorem AllSp.blank {l} (h : AllSp l) : Blank l := fun c hc => h c hc ▸ by decide +kernel

/-- does not start with a blank (`pyIsSpace`); the empty text passes -/
def hdOk : Str → Bool
  | [] => true
  | c :: _ => !pyIsSpace c

/-- nothing for `strip()` to remove at either end -/
def Trimmed (x : Str) : Prop := hdOk x = true ∧ hdOk x.reverse = true

theorem hdOk_dropSpaces : ∀ x : Str, hdOk (dropSpaces x) = true
  | [] => rfl
  | c :: cs => by
    simp only [dropSpaces]
    split
    · exact hdOk_dropSpaces cs
    · rename_i h; simp [hdOk, h]

theorem dropSpaces_of_hdOk : ∀ {x : Str}, hdOk x = true → dropSpaces x = x
  | [], _ => rfl
  | c :: cs, h => by
    simp only [hdOk, Bool.not_eq_true'] at h
    simp [dropSpaces, h]

theorem hdOk_append {a : Str} (b : Str) (h : a ≠ []) : hdOk (a ++ b) = hdOk a := by
  cases a with
  | nil => exact absurd rfl h
  | cons => rfl

theorem dropSpaces_blank {p : Str} (hp : Blank p) (r : Str) : dropSpaces (p ++ r) = dropSpaces r := by
  induction p with
  | nil => rfl
  | cons c cs ih =>
    simp only [List.cons_append, dropSpaces, hp c (by simp), if_true]
    exact ih (fun x hx => hp x (by simp [hx]))

theorem pyStrip_of_trimmed {x : Str} (h : Trimmed x) : pyStrip x = x := by
  unfold pyStrip
  rw [dropSpaces_of_hdOk h.1, dropSpaces_of_hdOk h.2, List.reverse_reverse]

theorem pyStrip_pad {p m q : Str} (hp : Blank p) (hq : Blank q) (hm : Trimmed m) :
    pyStrip (p ++ m ++ q) = m := by
  have hq' : Blank q.reverse := fun c hc => hq c (List.mem_reverse.mp hc)
  unfold pyStrip
  rw [List.append_assoc, dropSpaces_blank hp]
  by_cases hne : m = []
  · subst hne
    have := dropSpaces_blank hq []
    simp only [List.append_nil] at this
    rw [List.nil_append, this]; rfl
  · rw [dropSpaces_of_hdOk (x := m ++ q) (by rw [hdOk_append _ hne]; exact hm.1), List.reverse_append,
      dropSpaces_blank hq', dropSpaces_of_hdOk hm.2, List.reverse_reverse]

theorem dropSpaces_suffix : ∀ x : Str, ∃ pre, x = pre ++ dropSpaces x
  | [] => ⟨[], rfl⟩
  | c :: cs => by
    simp only [dropSpaces]
    split
    · obtain ⟨pre, h⟩ := dropSpaces_suffix cs
      exact ⟨c :: pre, by rw [List.cons_append, ← h]⟩
    · exact ⟨[], rfl⟩

theorem mem_pyStrip {c : Char} {x : Str} (h : c ∈ pyStrip x) : c ∈ x := by
  have sub : ∀ y : Str, c ∈ dropSpaces y → c ∈ y := fun y hy => by
    obtain ⟨pre, e⟩ := dropSpaces_suffix y
    rw [e]
    exact List.mem_append_right _ hy
  simp only [pyStrip, List.mem_reverse] at h
  exact sub _ (List.mem_reverse.1 (sub _ h))

theorem trimmed_pyStrip (x : Str) : Trimmed (pyStrip x) := by
  unfold pyStrip
  generalize hy : dropSpaces x = y
  have hy1 : hdOk y = true := hy ▸ hdOk_dropSpaces x
  obtain ⟨pre, hpre⟩ := dropSpaces_suffix y.reverse
  generalize hz : dropSpaces y.reverse = z at hpre
  refine ⟨?_, by rw [List.reverse_reverse, ← hz]; exact hdOk_dropSpaces _⟩
  have hyz : y = z.reverse ++ pre.reverse := by simpa using congrArg List.reverse hpre
  by_cases hzn : z = []
  · subst hzn; rfl
  · rw [← hdOk_append pre.reverse (by simpa using hzn), ← hyz]; exact hy1

theorem pyStrip_idem (x : Str) : pyStrip (pyStrip x) = pyStrip x := pyStrip_of_trimmed (trimmed_pyStrip x)

theorem hdOk_of_noSpace {x : Str} (h : NoSpace x) : hdOk x = true := by
  cases x with
  | nil => rfl
  | cons c cs => simp [hdOk, h c (by simp)]

theorem NoSpace.trimmed {x : Str} (h : NoSpace x) : Trimmed x :=
  ⟨hdOk_of_noSpace h, hdOk_of_noSpace fun c hc => h c (List.mem_reverse.mp hc)⟩

theorem pyStrip_noSpace {x : Str} (h : NoSpace x) : pyStrip x = x := pyStrip_of_trimmed h.trimmed

theorem dropLastNewline_cases (t : Str) : t = dropLastNewline t ∨ t = dropLastNewline t ++ ['\n'] := by
  unfold dropLastNewline
  split
  · rename_i r hr
    right
    simpa using congrArg List.reverse hr
  · exact Or.inl rfl

theorem digit_noSpace {c : Char} (h : pyIsDigit c = true) : pyIsSpace c = false := by
  have tbl : Generated.pySpaces.all
      (fun n => !(Generated.ndZeros.any fun z => z ≤ n && n < z + 10)) = true := by decide +kernel
  cases hs : pyIsSpace c with
  | false => rfl
  | true =>
    have h2 := List.all_eq_true.1 tbl _ (List.contains_iff_mem.1 hs)
    unfold pyIsDigit at h
    rw [h] at h2
    exact absurd h2 (by decide)

theorem Digs.noSpace {d : Str} (h : Digs d) : NoSpace d := fun c hc => digit_noSpace (h c hc)

theorem sep_facts {c : Char} (h : isSexaSep c = true) : pyIsDigit c = false ∧ c ≠ '.' := by
  simp only [isSexaSep, Bool.or_eq_true, decide_eq_true_eq] at h
  rcases h with (rfl | rfl) | rfl <;> exact ⟨by decide +kernel, by decide⟩

theorem dot_facts : pyIsDigit '.' = false ∧ isSexaSep '.' = false ∧ pyIsSpace '.' = false := by
  refine ⟨by decide +kernel, by decide, by decide +kernel⟩

/-- the characters of the number grammar that are not digits -/
theorem digit_ne {c : Char} (h : pyIsDigit c = true) :
    c ≠ '.' ∧ c ≠ '-' ∧ c ≠ '+' ∧ isSexaSep c = false := by
  have tbl : pyIsDigit '-' = false ∧ pyIsDigit '+' = false := by decide +kernel
  refine ⟨?_, ?_, ?_, ?_⟩
  · rintro rfl; simp [dot_facts.1] at h
  · rintro rfl; simp [tbl.1] at h
  · rintro rfl; simp [tbl.2] at h
  · cases hs : isSexaSep c with
    | false => rfl
    | true => simp [(sep_facts hs).1] at h

theorem spanDigits_nil : spanDigits [] = ([], []) := rfl

theorem spanDigits_append {ds rest : Str} (hd : Digs ds) (hr : spanDigits rest = ([], rest)) :
    spanDigits (ds ++ rest) = (ds, rest) := by
  induction ds with
  | nil => simpa using hr
  | cons a ds ih =>
    have ⟨ha, hds⟩ := Digs_cons.mp hd
    simp [spanDigits, ha, ih hds]

theorem spanDigits_digs {ds : Str} (hd : Digs ds) : spanDigits ds = (ds, []) := by
  simpa using spanDigits_append (rest := []) hd rfl

theorem spanDigits_stop {ds r : Str} {c : Char} (hd : Digs ds) (hc : pyIsDigit c = false) :
    spanDigits (ds ++ c :: r) = (ds, c :: r) :=
  spanDigits_append hd (by simp [spanDigits, hc])

theorem spanDigits_inv : ∀ (x : Str) {d r : Str}, spanDigits x = (d, r) →
    x = d ++ r ∧ Digs d ∧ (r = [] ∨ ∃ c r', r = c :: r' ∧ pyIsDigit c = false)
  | [], _, _, h => by cases h; exact ⟨rfl, Digs_nil, Or.inl rfl⟩
  | a :: x, d, r, h => by
    unfold spanDigits at h
    split at h <;> rename_i ha <;> cases h
    · obtain ⟨h1, h2, h3⟩ := spanDigits_inv x rfl
      exact ⟨congrArg (a :: ·) h1, Digs_cons.mpr ⟨ha, h2⟩, h3⟩
    · exact ⟨rfl, Digs_nil, Or.inr ⟨a, x, rfl, Bool.eq_false_iff.mpr ha⟩⟩

end Indi.Num
