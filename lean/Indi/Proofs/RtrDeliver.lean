/-
  Delivery theorems for the router model, shared by C04, C05 and C18: `process` in normal form on any state
  (`process_fst`, `process_snd`); on the state after a history its deliveries are those the specification demands
  (`process_deliveries`); who is registered after a history.
-/
import Indi.Proofs.Rtr

namespace Indi.Rtr
open Indi.Spec.Rtr

theorem processEnableBlob_endpoints (σ : State) (m : RMsg) (sd : Sender) :
    (processEnableBlob σ m sd).devices = σ.devices ∧ (processEnableBlob σ m sd).clients = σ.clients := by
  unfold processEnableBlob
  cases sd with
  | cli c => simp only; split <;> simp
  | nobody => simp
  | dev i => simp

theorem process_fst (σ : State) (m : RMsg) (sd : Sender) :
    (process σ m sd).1.devices = σ.devices ∧ (process σ m sd).1.clients = σ.clients := by
  unfold process
  dsimp only
  split
  · exact processEnableBlob_endpoints σ m sd
  · exact ⟨rfl, rfl⟩

/-- the endpoints are those of the state before; only the policies are looked up after an enableBLOB has taken effect -/
theorem process_snd (σ : State) (m : RMsg) (sd : Sender) :
    (process σ m sd).2 =
      (if m.fromClient then devicesFor σ.devices m sd else []) ++
      (if m.fromDevice then (σ.clients.filter fun c => Sender.cli c ≠ sd &&
        deliverCond m.isBlob (policyLookup (process σ m sd).1 c m.device)).map Target.cli else []) := by
  have h := process_fst σ m sd
  unfold process at h ⊢
  dsimp only at h ⊢
  rw [h.1, h.2]
  rfl

theorem mem_process_dev (σ : State) (m : RMsg) (sd : Sender) (i : Nat) :
    Target.dev i ∈ (process σ m sd).2 ↔
      m.fromClient = true ∧ ∃ d ∈ σ.devices, d.id = i ∧ Sender.dev i ≠ sd ∧ accepts d m.device = true := by
  rw [process_snd]
  simp only [List.mem_append, List.mem_ite_nil_right, devicesFor, List.mem_map, List.mem_filter, Target.dev.injEq, reduceCtorEq,
    and_false, exists_false, or_false, Bool.and_eq_true, decide_eq_true_eq]
  exact and_congr_right fun _ => ⟨fun ⟨d, ⟨h1, h2, h3⟩, h4⟩ => ⟨d, h1, h4, h4 ▸ h2, h3⟩,
    fun ⟨d, h1, h2, h3, h4⟩ => ⟨d, ⟨h1, h2 ▸ h3, h4⟩, h2⟩⟩

theorem mem_process_cli (σ : State) (m : RMsg) (sd : Sender) (c : Nat) :
    Target.cli c ∈ (process σ m sd).2 ↔
      m.fromDevice = true ∧ c ∈ σ.clients ∧ Sender.cli c ≠ sd ∧
        deliverCond m.isBlob (policyLookup (process σ m sd).1 c m.device) = true := by
  rw [process_snd]
  simp only [List.mem_append, List.mem_ite_nil_right, devicesFor, List.mem_map, List.mem_filter, Target.cli.injEq, reduceCtorEq,
    and_false, exists_false, false_or, Bool.and_eq_true, decide_eq_true_eq, exists_eq_right]

theorem run_snoc (h : List Op) (op : Op) : run (h ++ [op]) = (step (run h) op).1 := by
  simp [run, List.foldl_append]

theorem policyLookup_run (h : List Op) (c : Nat) (d : Option Str) :
    policyLookup (run h) c d = policyOf h c d := by
  rw [run_eq_runRev]
  exact (inv_runRev h.reverse).pol c d

theorem keys_run (h : List Op) : ((run h).blob.map Prod.fst).Nodup := by
  rw [run_eq_runRev]
  exact (inv_runRev h.reverse).keys

/-- the deliveries of one `process_message` are exactly what the history specification demands -/
theorem process_deliveries (h : List Op) (m : RMsg) (sd : Sender) :
    (step (run h) (.send m sd)).2 =
      expected (h ++ [.send m sd]) (run h).devices (run h).clients m sd := by
  show (process (run h) m sd).2 = _
  rw [process_snd]
  unfold expected clientsFor
  congr 4
  funext c
  rw [deliverCond_eq_allows, ← policyLookup_run, run_snoc]
  rfl

theorem devicesOf_append (a b : List Op) : devicesOf (a ++ b) = devicesOf a ++ devicesOf b := by
  simp [devicesOf, List.filterMap_append]

theorem devices_eq (h : List Op) : (run h).devices = devicesOf h := by
  rw [run_eq_runRev]
  have : ∀ r : List Op, (runRev r).devices = devicesOf r.reverse := by
    intro r
    induction r with
    | nil => rfl
    | cons op rest ih =>
      simp only [List.reverse_cons, devicesOf_append]
      cases op <;> simp [runRev, step, (process_fst _ _ _).1, ih, devicesOf]
  rw [this, List.reverse_reverse]

theorem mem_removeFirst {c x : Nat} {l : List Nat} (h : x ∈ removeFirst c l) : x ∈ l := by
  induction l with
  | nil => cases h
  | cons y ys ih =>
    simp only [removeFirst] at h
    split at h
    · exact List.mem_cons_of_mem _ h
    · rcases List.mem_cons.mp h with e | e
      · exact e ▸ List.mem_cons_self
      · exact List.mem_cons_of_mem _ (ih e)

theorem removeFirst_nodup {c : Nat} {l : List Nat} (h : l.Nodup) :
    (removeFirst c l).Nodup ∧ c ∉ removeFirst c l ∧ ∀ x, x ≠ c → (x ∈ removeFirst c l ↔ x ∈ l) := by
  induction l with
  | nil => simp [removeFirst]
  | cons y ys ih =>
    simp only [List.nodup_cons] at h
    obtain ⟨ih1, ih2, ih3⟩ := ih h.2
    simp only [removeFirst]
    split
    · rename_i hy
      subst hy
      refine ⟨h.2, h.1, ?_⟩
      intro x hx
      simp [hx]
    · rename_i hy
      refine ⟨?_, ?_, ?_⟩
      · simp only [List.nodup_cons]
        exact ⟨fun hm => h.1 (mem_removeFirst hm), ih1⟩
      · simp only [List.mem_cons, not_or]
        exact ⟨fun e => hy e.symm, ih2⟩
      · intro x hx
        simp only [List.mem_cons]
        rw [ih3 x hx]

theorem unreg_spec (σ : State) (hc : σ.clients.Nodup) (hk : (σ.blob.map Prod.fst).Nodup) (c : Nat) :
    c ∉ (step σ (.unreg c)).1.clients ∧ nlookup c (step σ (.unreg c)).1.blob = none ∧
      ∀ c', c' ≠ c → (c' ∈ (step σ (.unreg c)).1.clients ↔ c' ∈ σ.clients) :=
  ⟨(removeFirst_nodup hc).2.1, by simp [step, nlookup_ndel _ _ _ hk], (removeFirst_nodup hc).2.2⟩

theorem clients_registered : ∀ (r : List Op), wellFormedRev r = true →
    (runRev r).clients.Nodup ∧ ∀ c, c ∈ (runRev r).clients ↔ registered r c = true := by
  intro r
  induction r with
  | nil => intro _; simp [runRev, init, registered]
  | cons op rest ih =>
    intro hwf
    simp only [wellFormedRev, Bool.and_eq_true] at hwf
    obtain ⟨ih1, ih2⟩ := ih hwf.1
    cases op with
    | regDev d => simpa [runRev, step, registered] using ⟨ih1, ih2⟩
    | regCli c0 =>
      have hnew : registered rest c0 = false := by simpa using hwf.2
      simp only [runRev, step, registered]
      refine ⟨nodup_snoc ih1 fun ha => by rw [ih2, hnew] at ha; exact Bool.noConfusion ha, fun c => ?_⟩
      rw [List.mem_append, List.mem_singleton, ih2 c]
      by_cases h : c0 = c
      · simp [h]
      · simp [h, Ne.symm h]
    | unreg c0 =>
      simp only [runRev, step, registered]
      obtain ⟨n1, n2, n3⟩ := removeFirst_nodup (c := c0) ih1
      refine ⟨n1, fun c => ?_⟩
      by_cases h : c0 = c
      · subst h; simp [n2]
      · simp [h, n3 c (Ne.symm h), ih2 c]
    | send m sd =>
      simp only [runRev, step, registered, (process_fst _ m sd).2]
      exact ⟨ih1, ih2⟩

theorem device_ids_nodup : ∀ (r : List Op), wellFormedRev r = true →
    ((devicesOf r.reverse).map (·.id)).Nodup := by
  intro r
  induction r with
  | nil => intro _; simp [devicesOf]
  | cons op rest ih =>
    intro hwf
    simp only [wellFormedRev, Bool.and_eq_true] at hwf
    have ih' := ih hwf.1
    simp only [List.reverse_cons, devicesOf_append]
    cases op with
    | regDev d =>
      simp only [devicesOf, List.filterMap_cons, List.filterMap_nil, List.map_append, List.map_cons, List.map_nil]
      refine nodup_snoc ih' fun ha => ?_
      have h2 := hwf.2
      simp only [Bool.not_eq_true', List.any_eq_false, decide_eq_true_eq] at h2
      obtain ⟨d', hd', hid⟩ := List.mem_map.mp ha
      -- devicesOf rest (newest first) has the same members as devicesOf rest.reverse
      have hmem : d' ∈ devicesOf rest := by
        simp only [devicesOf, List.mem_filterMap] at hd' ⊢
        obtain ⟨op, hop, hh⟩ := hd'
        exact ⟨op, List.mem_reverse.mp hop, hh⟩
      exact h2 d' hmem hid
    | _ => simpa [devicesOf] using ih'

end Indi.Rtr
