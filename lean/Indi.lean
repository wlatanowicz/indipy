/-
  Every module of the library, in an order in which the files can be read (each after what it imports): model and
  generated tables, specifications, then by subject (DESIGN.md 12.14) the lemma libraries with the properties they serve:
  strings/numbers/codec, the character level, framing/router/connections, driver/client/wait, the deployment.
  Properties/Dec/*.lean are reached through Properties/Decisions.lean; Audit/*.lean are built as targets of their own.
-/
import Indi.Model.Basic
import Indi.Generated.Consts
import Indi.Model.Msg
import Indi.Generated.Registry
import Indi.Generated.Decisions
import Indi.Model.Wire
import Indi.Model.Xml
import Indi.Model.Buf
import Indi.Model.Rtr
import Indi.Model.RtrR
import Indi.Model.RtrGlue
import Indi.Model.Conn
import Indi.Model.Switch
import Indi.Model.B64
import Indi.Model.Num
import Indi.Model.Dev
import Indi.Model.Cli
import Indi.Model.Wait
import Indi.Model.Send
import Indi.Model.Sys
import Indi.Spec.Buf
import Indi.Spec.Buf2
import Indi.Spec.BufRun
import Indi.Spec.Cli
import Indi.Spec.Dev
import Indi.Spec.Msg
import Indi.Spec.MsgValid
import Indi.Spec.Num
import Indi.Spec.Rtr
import Indi.Spec.RtrR
import Indi.Spec.Switch
import Indi.Spec.Sys
import Indi.Spec.Wait
import Indi.Spec.Xml
import Indi.Spec.XmlSpell
import Indi.Proofs.Str
import Indi.Proofs.AList
import Indi.Proofs.NumText
import Indi.Proofs.Num
import Indi.Proofs.NumIEEE
import Indi.Properties.C10
import Indi.Properties.C10b
import Indi.Properties.Pins
import Indi.Proofs.Construct
import Indi.Proofs.Conformance
import Indi.Properties.C13
import Indi.Proofs.MsgEq
import Indi.Properties.C20
import Indi.Proofs.C03
import Indi.Properties.C03
import Indi.Proofs.Rows
import Indi.Proofs.SpellMsg
import Indi.Proofs.XmlTok
import Indi.Proofs.XmlDocStep
import Indi.Proofs.XmlDoc
import Indi.Proofs.XmlLay
import Indi.Proofs.XmlRT
import Indi.Proofs.SpellRT
import Indi.Proofs.Buf
import Indi.Proofs.Buf2
import Indi.Properties.C02
import Indi.Properties.C11
import Indi.Properties.C11b
import Indi.Properties.Wire
import Indi.Properties.Spellings
import Indi.Proofs.Rtr
import Indi.Proofs.RtrDeliver
import Indi.Properties.C04
import Indi.Properties.C05
import Indi.Properties.C05b
import Indi.Properties.C05c
import Indi.Properties.C18
import Indi.Proofs.Conn
import Indi.Properties.C18b
import Indi.Properties.C02b
import Indi.Properties.C09
import Indi.Proofs.DevOps
import Indi.Proofs.DevA
import Indi.Properties.DevA
import Indi.Properties.C12
import Indi.Properties.C14
import Indi.Properties.C07b
import Indi.Properties.C19
import Indi.Proofs.DevBResp
import Indi.Proofs.DevB
import Indi.Properties.DevB
import Indi.Properties.C07
import Indi.Proofs.Cli
import Indi.Properties.C15
import Indi.Properties.C16
import Indi.Proofs.Wait
import Indi.Properties.C17
import Indi.Properties.Decisions
import Indi.Properties.C17b
import Indi.Proofs.B64
import Indi.Proofs.SysList
import Indi.Proofs.SysArr
import Indi.Proofs.SysCli
import Indi.Proofs.SysMsg
import Indi.Proofs.SysDefs
import Indi.Proofs.SysBatch
import Indi.Proofs.SysB64
import Indi.Proofs.SysView
import Indi.Proofs.SysVec
import Indi.Proofs.SysWrite
import Indi.Proofs.SysAnn
import Indi.Proofs.SysOps
import Indi.Proofs.SysPeer
import Indi.Proofs.SysWorld
import Indi.Properties.C01Defs
import Indi.Properties.C01
import Indi.Properties.C08Defs
import Indi.Proofs.SysSynced
import Indi.Properties.C06Defs
import Indi.Properties.C06Ex
import Indi.Proofs.Sys06
import Indi.Properties.C06
import Indi.Properties.C08Ex
import Indi.Proofs.Sys08
import Indi.Properties.C08
